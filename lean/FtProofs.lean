import FtProofs.Lemmas.ListFacts
import FtProofs.Lemmas.MapMOpt
import FtProofs.Lemmas.Sorted
import FtProofs.Lemmas.Merge
import FtProofs.Lemmas.Content
import FtProofs.Lemmas.EqLemmas
import FtProofs.Lemmas.PointLemmas
import FtProofs.Lemmas.PopLemmas
import FtProofs.Lemmas.MutLemmas
import FtProofs.Lemmas.AssignLemmas
import FtProofs.Lemmas.RankLemmas
import FtProofs.Lemmas.PopRankLemmas
import FtProofs.Lemmas.NaryLemmas
import FtProofs.Lemmas.TupleLemmas
import FtProofs.Lemmas.Format
import FtProofs.Lemmas.Codec
import FtProofs.Lemmas.Convert
import FtProofs.Lemmas.Arith
import FtProofs.Lemmas.SplitUniform
import FtProofs.Lemmas.SplitNonUniform
import FtProofs.Lemmas.SplitSpec
import FtProofs.Lemmas.SplitChunks
import FtProofs.Lemmas.MetaLemmas
import FtProofs.Lemmas.TrafficBasic
import FtProofs.Lemmas.TrafficTools
import FtProofs.Lemmas.TrafficBuffet
import FtProofs.Lemmas.TrafficSched
import FtProofs.Lemmas.TrafficCacheOrd
import FtProofs.Lemmas.TrafficCache
import FtProofs.Lemmas.TrafficCacheBounds
import FtProofs.Lemmas.TrafficSchedOrd
import FtProofs.Lemmas.HeapLemmas
import FtProofs.Lemmas.Traverse
import FtProofs.Lemmas.Intersect
import FtProofs.Lemmas.Compute
import FtProofs.Lemmas.MergeInf
import FtProofs.Lemmas.MergeEmit
import FtProofs.Lemmas.KernelSum
import FtProofs.Lemmas.KernelCoiter
import FtProofs.Lemmas.KernelRun
import FtProofs.Lemmas.KernelTile
import FtProofs.Lemmas.KernelSplit
import FtProofs.Lemmas.KernelSwizzle
import FtProofs.Lemmas.KernelContent
import FtProofs.Lemmas.Transform
import FtProofs.Lemmas.MetricsLemmas
import FtProofs.Lemmas.MetricsSession
import FtProofs.Lemmas.MetricsSafe
import FtProofs.Lemmas.MetricsKernelLemmas
import FtProofs.Lemmas.TraceMachine
import FtProofs.Lemmas.TraceNest
import FtProofs.Lemmas.TraceEmit
import FtProofs.Lemmas.TraceKernel
import FtProofs.Lemmas.TraceAddr
import FtProofs.C01
import FtProofs.C02
import FtProofs.C03
import FtProofs.C04
import FtProofs.C04Nary
import FtProofs.C04Tuple
import FtProofs.C05
import FtProofs.C06
import FtProofs.C07
import FtProofs.C08
import FtProofs.C09
import FtProofs.C10
import FtProofs.C11
import FtProofs.C12
import FtProofs.C13
import FtProofs.C14
import FtProofs.C15
import FtProofs.C16
import FtProofs.C17
import FtProofs.C18
import FtProofs.C19
import FtProofs.C20
import FtProofs.C04Present
