/-
  FtModel.Compute — `Compute.numSwaps` / `_numSwapsTree` / `_merge` of
  fibertree/model/compute.py, and the specification of C19's second sentence.

  `_numSwapsTree(fiber, depth, radix, next_latency)` walks `depth` levels down over the
  *stored* payloads (`fiber.getPayloads()`), and at the last level merges the negated
  coordinate lists (`payload.getCoords()`: all stored coordinates) of the sub-fibers that
  hold at least one coordinate, in rounds of `radix` lists.  Payload values are never read.
-/
import FtModel.Basic
set_option linter.unusedVariables false
namespace Ft

/-- `next_latency`: an int, or "N" (unbounded) -/
inductive Lat
  | fin (l : Nat)
  | inf
  deriving DecidableEq, Repr

/-- Python's `sorted(...)` / `list.sort()` on ints -/
def pySort (l : List Int) : List Int := l.mergeSort (fun a b => decide (a ≤ b))

/-- `sorted([-c for c in coords])` -/
def negSorted (coords : List Int) : List Int := pySort (coords.map (fun c => -c))

/-! ### `_merge` with an int latency -/

def mergeFin (lat : Nat) (chunk : List (List Int)) : Nat × List Int :=
  let merged := pySort chunk.flatten
  (lat * (chunk.length + merged.length), merged)

/-! ### `_merge` with latency "N": incremental merge through a sorted list of heads

Entries of `head` are tuples `(negated coord, list index)` compared as Python tuples. -/

def tupLe (x y : Int × Nat) : Bool := decide (x.1 < y.1) || (decide (x.1 = y.1) && decide (x.2 ≤ y.2))

/-- `bisect.bisect_right(head, e)` on the (sorted) list `head`: number of leading entries ≤ e -/
def bisectRight (head : List (Int × Nat)) (e : Int × Nat) : Nat :=
  (head.takeWhile (fun h => tupLe h e)).length

/-- `list.insert(j, e)` -/
def c19_insertAt {α : Type} (l : List α) (j : Nat) (e : α) : List α := l.take j ++ e :: l.drop j

/-- "First insert all fibers": pops the last element of every list.  A list without
    elements would raise IndexError in Python; it cannot occur (presented sub-fibers hold
    at least one coordinate, merged lists of non-empty lists are non-empty) and is passed
    over here. -/
def infHeads : Nat → List (List Int) → List (Int × Nat) → Nat → List (List Int) × List (Int × Nat) × Nat
  | _, [], head, cmp => ([], head, cmp)
  | i, l :: ls, head, cmp =>
    match l.getLast? with
    | none =>
      let r := infHeads (i + 1) ls head cmp
      (l :: r.1, r.2.1, r.2.2)
    | some x =>
      let e := (x, i)
      let j := bisectRight head e
      let r := infHeads (i + 1) ls (c19_insertAt head j e) (cmp + (head.length - j + 1))
      (l.dropLast :: r.1, r.2.1, r.2.2)

/-- "Now build the result": `while head:` — every iteration pops one entry, `fuel` is the
    number of elements still to be emitted. -/
def infDrain : Nat → List (List Int) → List (Int × Nat) → List Int → Nat → Nat × List Int
  | 0, _, _, merged, cmp => (cmp, merged)
  | fuel + 1, coords, head, merged, cmp =>
    match head.getLast? with
    | none => (cmp, merged)
    | some elem =>
      let head := head.dropLast
      let merged := merged ++ [elem.1]
      let l := coords.getD elem.2 []
      match l.getLast? with
      | none => infDrain fuel coords head merged cmp
      | some x =>
        let new := (x, elem.2)
        let j := bisectRight head new
        infDrain fuel (coords.set elem.2 l.dropLast) (c19_insertAt head j new) merged
          (cmp + (head.length - j + 1))

def mergeInf (chunk : List (List Int)) : Nat × List Int :=
  let s := infHeads 0 chunk [] 0
  let r := infDrain (chunk.map List.length).sum s.1 s.2.1 [] s.2.2
  (r.1, pySort r.2)

def mergeChunk : Lat → List (List Int) → Nat × List Int
  | .fin l, chunk => mergeFin l chunk
  | .inf, chunk => mergeInf chunk

/-! ### the rounds -/

/-- `coords[i:min(i+radix, len)] for i in range(0, len(coords), radix)` -/
def chunks {α : Type} (r : Nat) (l : List α) : List (List α) :=
  if h : r = 0 ∨ l = [] then [] else l.take r :: chunks r (l.drop r)
termination_by l.length
decreasing_by
  have : l.length ≠ 0 := by
    intro h0; exact h (Or.inr (List.length_eq_zero_iff.1 h0))
  simp only [List.length_drop]; omega

/-- `if radix > len(coords): radix = len(coords)`; `none` is `float("inf")` -/
def clampRadix (radix : Option Nat) (len : Nat) : Nat :=
  match radix with
  | none => len
  | some r => if r > len then len else r

/-- `while len(coords) > 1: …` (`fuel` = number of lists: a round with radix ≥ 2 on ≥ 2
    lists leaves fewer lists; radix < 2 does not terminate in Python and is outside the
    model) -/
def swapRounds (lat : Lat) : Nat → Option Nat → List (List Int) → Nat
  | 0, _, _ => 0
  | fuel + 1, radix, coords =>
    if coords.length ≤ 1 then 0
    else
      let r := clampRadix radix coords.length
      let res := (chunks r coords).map (mergeChunk lat)
      (res.map (·.1)).sum + swapRounds lat fuel (some r) (res.map (·.2))

/-- the merge at one fiber of the target level -/
def swapsAt (radix : Option Nat) (lat : Lat) (lists : List (List Int)) : Nat :=
  swapRounds lat lists.length radix (lists.map negSorted)

/-- stored coordinates of a fiber (`Fiber.getCoords()`) -/
def coordsOf {κ ν : Type} {d : Nat} (f : Tree κ ν (d + 1)) : List κ :=
  (show List (κ × Tree κ ν d) from f).map (·.1)

/-- the lists merged at one fiber of the target level: the stored coordinates of every
    stored sub-fiber that holds at least one (`if len(payload.getCoords()) > 0`) -/
def storedLists {ν : Type} (e : Nat) (f : Tree Int ν (e + 2)) : List (List Int) :=
  ((show List (Int × Tree Int ν (e + 1)) from f).map (fun el => coordsOf (d := e) el.2)).filter
    (fun l => !l.isEmpty)

/-- the coordinate lists merged at each fiber of level `depth` (the walk visits every
    stored fiber) -/
def mergeNodes {ν : Type} (e : Nat) : (depth : Nat) → Tree Int ν (e + 2 + depth) → List (List (List Int))
  | 0, f => [storedLists e f]
  | depth + 1, f =>
    (show List (Int × Tree Int ν (e + 2 + depth)) from f).flatMap (fun el => mergeNodes e depth el.2)

/-- `Compute._numSwapsTree(fiber, depth, radix, next_latency)` -/
def numSwapsTree {ν : Type} (e : Nat) (radix : Option Nat) (lat : Lat) :
    (depth : Nat) → Tree Int ν (e + 2 + depth) → Nat
  | 0, f => swapsAt radix lat (storedLists e f)
  | depth + 1, f =>
    ((show List (Int × Tree Int ν (e + 2 + depth)) from f).map
      (fun el => numSwapsTree e radix lat depth el.2)).sum

/-! ### Specification -/

/-- ⌈k / r⌉ -/
def ceilDiv (k r : Nat) : Nat := (k + r - 1) / r

theorem ceilDiv_lt {k r : Nat} (hk : 2 ≤ k) (hr : 2 ≤ r) (hrk : r ≤ k) : ceilDiv k r < k := by
  unfold ceilDiv
  rw [Nat.div_lt_iff_lt_mul (Nat.lt_of_lt_of_le Nat.zero_lt_two hr)]
  have hpos : k + r ≠ 0 := Nat.ne_of_gt (Nat.lt_of_lt_of_le Nat.zero_lt_two (Nat.le_trans hk (Nat.le_add_right k r)))
  calc k + r - 1 < k + r := Nat.sub_one_lt hpos
    _ ≤ k + k := Nat.add_le_add_left hrk k
    _ = k * 2 := (Nat.mul_two k).symm
    _ ≤ k * r := Nat.mul_le_mul_left k hr

/-- finite latency: every round over `k > 1` lists holding `n` elements in total costs
    `lat · (k + n)` and leaves ⌈k / min(radix, k)⌉ lists -/
def roundsCost (radix : Option Nat) (lat n : Nat) (k : Nat) : Nat :=
  if h : 2 ≤ k ∧ 2 ≤ clampRadix radix k then
    lat * (k + n) + roundsCost radix lat n (ceilDiv k (clampRadix radix k))
  else 0
termination_by k
decreasing_by
  apply ceilDiv_lt h.1 h.2
  unfold clampRadix
  cases radix with
  | none => exact Nat.le_refl _
  | some r => simp only; split <;> omega

/-- total number of coordinates in a list of lists -/
def total (ls : List (List Int)) : Nat := (ls.map List.length).sum

/-- The coordinate skeleton of a tree (payload values erased). -/
def skel {κ ν : Type} : (d : Nat) → Tree κ ν d → Tree κ Unit d
  | 0, _ => ()
  | d + 1, f => (show List (κ × Tree κ ν d) from f).map (fun el => (el.1, skel d el.2))

/-- the merge lists of a skeleton: the same walk on the tree without values -/
def skelNodes (e : Nat) (depth : Nat) (s : Tree Int Unit (e + 2 + depth)) : List (List (List Int)) :=
  mergeNodes e depth s

/-- the swap count as a function of the skeleton only -/
def swapsSpec (e : Nat) (radix : Option Nat) (lat : Lat) (depth : Nat)
    (s : Tree Int Unit (e + 2 + depth)) : Nat :=
  ((skelNodes e depth s).map (swapsAt radix lat)).sum

/-- finite latency, closed form, as a function of the skeleton only -/
def swapsSpecFin (e : Nat) (radix : Option Nat) (lat depth : Nat) (s : Tree Int Unit (e + 2 + depth)) : Nat :=
  ((skelNodes e depth s).map (fun ls => roundsCost radix lat (total ls) ls.length)).sum

/-! ### unbounded latency, stated on the coordinates themselves

A sorted buffer holds the current head `(coord, list index)` of every list, in emission
order: smaller coordinate first, equal coordinates: larger list index first.  Bringing a
new head into the buffer costs one comparison per buffered entry that is emitted before
it, plus one.  (No negation, no stacks, no positions.) -/

def ahead (x y : Int × Nat) : Bool := decide (x.1 < y.1) || (decide (x.1 = y.1) && decide (y.2 < x.2))

def bufInsert (buf : List (Int × Nat)) (e : Int × Nat) : List (Int × Nat) :=
  buf.filter (fun h => ahead h e) ++ e :: buf.filter (fun h => !ahead h e)

def bufCost (buf : List (Int × Nat)) (e : Int × Nat) : Nat := buf.countP (fun h => ahead h e) + 1

/-- fill the buffer with the first coordinate of every list -/
def specHeads : Nat → List (List Int) → List (Int × Nat) → Nat → List (List Int) × List (Int × Nat) × Nat
  | _, [], buf, cost => ([], buf, cost)
  | i, [] :: ls, buf, cost =>
    let r := specHeads (i + 1) ls buf cost
    ([] :: r.1, r.2.1, r.2.2)
  | i, (c :: l) :: ls, buf, cost =>
    let r := specHeads (i + 1) ls (bufInsert buf (c, i)) (cost + bufCost buf (c, i))
    (l :: r.1, r.2.1, r.2.2)

/-- emit the first buffered entry, bring in its successor -/
def specDrain : Nat → List (List Int) → List (Int × Nat) → List Int → Nat → Nat × List Int
  | 0, _, _, out, cost => (cost, out)
  | _ + 1, _, [], out, cost => (cost, out)
  | fuel + 1, lists, (c, i) :: buf, out, cost =>
    match lists.getD i [] with
    | [] => specDrain fuel lists buf (out ++ [c]) cost
    | c' :: l =>
      specDrain fuel (lists.set i l) (bufInsert buf (c', i)) (out ++ [c]) (cost + bufCost buf (c', i))

/-- one k-way merge of coordinate lists: comparison count and the (sorted) emitted list -/
def insertMerge (lists : List (List Int)) : Nat × List Int :=
  let s := specHeads 0 lists [] 0
  let r := specDrain (lists.map List.length).sum s.1 s.2.1 [] s.2.2
  (r.1, pySort r.2)

theorem ceilDiv_zero (r : Nat) (hr : r ≠ 0) : ceilDiv 0 r = 0 := by
  unfold ceilDiv
  rw [Nat.zero_add]
  exact Nat.div_eq_of_lt (Nat.sub_one_lt hr)

theorem ceilDiv_step (k r : Nat) (hr : r ≠ 0) (hk : k ≠ 0) : ceilDiv k r = ceilDiv (k - r) r + 1 := by
  unfold ceilDiv
  -- ⌈k / r⌉ = (k - 1) / r + 1, and (k - 1) / r = (k - r + r - 1) / r whether or not r ≤ k
  rw [Nat.sub_add_comm (Nat.one_le_iff_ne_zero.2 hk), Nat.add_div_right _ (Nat.pos_of_ne_zero hr)]
  congr 1
  rcases Nat.lt_or_ge k r with h | h
  · rw [Nat.sub_eq_zero_of_le (Nat.le_of_lt h), Nat.zero_add,
      Nat.div_eq_of_lt (Nat.lt_of_le_of_lt (Nat.sub_le k 1) h), Nat.div_eq_of_lt (Nat.sub_one_lt hr)]
  · rw [Nat.sub_add_cancel h]

theorem length_chunks {α : Type} (r : Nat) (hr : r ≠ 0) (l : List α) :
    (chunks r l).length = ceilDiv l.length r := by
  fun_induction chunks r l with
  | case1 l h =>
    rcases h with h | h
    · exact absurd h hr
    · rw [h]; exact (ceilDiv_zero r hr).symm
  | case2 l h ih =>
    rw [List.length_cons, ih, List.length_drop,
      ceilDiv_step l.length r hr (fun h0 => h (Or.inr (List.length_eq_zero_iff.1 h0)))]

theorem clampRadix_le (radix : Option Nat) (k : Nat) : clampRadix radix k ≤ k := by
  cases radix with
  | none => exact Nat.le_refl _
  | some r =>
    show (if r > k then k else r) ≤ k
    split
    · exact Nat.le_refl _
    · next h => exact Nat.le_of_not_gt h

/-- unbounded latency: every round merges the lists in groups of `min(radix, k)`; each
    merge is charged its insertion comparisons and leaves its emitted list -/
def roundsInf (radix : Option Nat) (lists : List (List Int)) : Nat :=
  if h : 2 ≤ lists.length ∧ 2 ≤ clampRadix radix lists.length then
    let ms := (chunks (clampRadix radix lists.length) lists).map insertMerge
    (ms.map (·.1)).sum + roundsInf radix (ms.map (·.2))
  else 0
termination_by lists.length
decreasing_by
  simp only [List.length_map]
  rw [length_chunks _ (by omega)]
  exact ceilDiv_lt h.1 h.2 (clampRadix_le radix lists.length)

/-- the swap count with unbounded latency as a function of the skeleton only -/
def swapsSpecInf (e : Nat) (radix : Option Nat) (depth : Nat) (s : Tree Int Unit (e + 2 + depth)) : Nat :=
  ((skelNodes e depth s).map (roundsInf radix)).sum

end Ft
