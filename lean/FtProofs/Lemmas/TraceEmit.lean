/-
  C16: what the iterators emit is well-nested.  `Rounds` is the shape every loop execution
  has: the consumer's rounds between the iterators' own items.
-/
import FtProofs.Lemmas.TraceNest
import FtProofs.Lemmas.TraceMachine
namespace Ft.C16

section
variable {σ : Type}

/-- the local state after the items (loop bodies do not touch it) -/
def advance : LSt → List (Item σ) → LSt
  | st, [] => st
  | st, .use .. :: rest => advance st rest
  | st, .useSaved .. :: rest => advance st rest
  | st, .inc :: rest => advance { st with cnt := st.cnt + 1 } rest
  | st, .save s :: rest => advance { st with regs := upd st.regs s st.cnt } rest
  | st, .bump s :: rest => advance { st with regs := upd st.regs s (st.regs s + 1) } rest
  | st, .sub _ :: rest => advance st rest

theorem levelStamps_append (k : Key) : ∀ (a b : List (Item σ)) (st : LSt),
    levelStamps k st (a ++ b) = levelStamps k st a ++ levelStamps k (advance st a) b := by
  intro a
  induction a with
  | nil => intro b st; simp [levelStamps, advance]
  | cons it rest ih =>
    intro b st
    cases it <;> simp [levelStamps, advance, ih, List.append_assoc]

theorem advance_append : ∀ (a b : List (Item σ)) (st : LSt),
    advance st (a ++ b) = advance (advance st a) b := by
  intro a
  induction a with
  | nil => intro b st; simp [advance]
  | cons it rest ih => intro b st; cases it <;> simp [advance, ih]

def isSub : Item σ → Bool
  | .sub _ => true
  | _ => false

/-- the key an item writes to, if it is a use -/
def itemKey : Item σ → Option Key
  | .use r ty _ _ => some (r, ty)
  | .useSaved _ r ty _ _ => some (r, ty)
  | _ => none

def isSaved : Item σ → Bool
  | .useSaved .. => true
  | _ => false

theorem mem_subsOf (x : σ) : ∀ (l : List (Item σ)), x ∈ subsOf l ↔ Item.sub x ∈ l
  | [] => by simp [subsOf]
  | it :: l => by cases it <;> simp [subsOf, mem_subsOf x l]

theorem sepB_cons {it : Item σ} (h : isSub it = false) (l : List (Item σ)) :
    sepB true (it :: l) = sepB true l := by
  cases it with
  | sub x => cases h
  | _ => rfl

theorem sepB_nosub : ∀ (a b : List (Item σ)) (f : Bool), a.all (fun i => !isSub i) = true →
    sepB true b = true → (f = true ∨ a.any (fun i => match i with | .inc => true | _ => false) = true ∨ True) →
    sepB true (a ++ b) = true := by
  intro a
  induction a with
  | nil => intro b _ _ hb _; exact hb
  | cons it rest ih =>
    intro b f ha hb _
    simp only [List.all_cons, Bool.and_eq_true, Bool.not_eq_true'] at ha
    rw [List.cons_append, sepB_cons ha.1]
    exact ih b f ha.2 hb (Or.inr (Or.inr trivial))

theorem subsOf_append : ∀ (a b : List (Item σ)), subsOf (a ++ b) = subsOf a ++ subsOf b := by
  intro a
  induction a with
  | nil => intro b; simp [subsOf]
  | cons it rest ih => intro b; cases it <;> simp [subsOf, ih]

theorem subsOf_nosub : ∀ (a : List (Item σ)), a.all (fun i => !isSub i) = true → subsOf a = [] := by
  intro a h
  rw [List.eq_nil_iff_forall_not_mem]
  intro x hx
  have := List.all_eq_true.1 h _ ((mem_subsOf x a).1 hx)
  cases this

theorem levelStamps_nokey (k : Key) : ∀ (items : List (Item σ)) (st : LSt),
    (∀ it ∈ items, itemKey it ≠ some k) → levelStamps k st items = [] := by
  intro items
  induction items with
  | nil => intro st _; rfl
  | cons it rest ih =>
    intro st h
    have hr : ∀ it ∈ rest, itemKey it ≠ some k := fun x hx => h x (by simp [hx])
    have h0 := h it (by simp)
    cases it with
    | use r ty c pos | useSaved s r ty c pos =>
      have : (r, ty) ≠ k := fun e => h0 (congrArg some e)
      rw [levelStamps, if_neg this]; exact ih st hr
    | inc => exact ih { st with cnt := st.cnt + 1 } hr
    | save s => exact ih { st with regs := upd st.regs s st.cnt } hr
    | bump s => exact ih { st with regs := upd st.regs s (st.regs s + 1) } hr
    | sub x => exact ih st hr

/-- a key that is never used through a saved copy gets the values of the counter, which
    only grows -/
theorem levelStamps_plain (k : Key) : ∀ (items : List (Item σ)) (st : LSt),
    (∀ it ∈ items, isSaved it = true → itemKey it ≠ some k) →
    (levelStamps k st items).Pairwise (· ≤ ·) ∧ ∀ x ∈ levelStamps k st items, st.cnt ≤ x := by
  intro items
  induction items with
  | nil => intro st _; simp [levelStamps]
  | cons it rest ih =>
    intro st h
    have hr : ∀ it ∈ rest, isSaved it = true → itemKey it ≠ some k := fun x hx => h x (by simp [hx])
    cases it with
    | use r ty c pos =>
      have := ih st hr
      simp only [levelStamps]
      split
      · simp only [List.singleton_append, List.pairwise_cons, List.mem_cons]
        exact ⟨⟨this.2, this.1⟩, fun x hx => by rcases hx with rfl | hx; exact Nat.le_refl _; exact this.2 x hx⟩
      · simpa using this
    | useSaved s r ty c pos =>
      have h0 := h (.useSaved s r ty c pos) (by simp) rfl
      have hk : (r, ty) ≠ k := fun e => h0 (congrArg some e)
      rw [levelStamps, if_neg hk]; exact ih st hr
    | inc =>
      have := ih { st with cnt := st.cnt + 1 } hr
      exact ⟨this.1, fun x hx => Nat.le_of_succ_le (this.2 x hx)⟩
    | save s => exact ih { st with regs := upd st.regs s st.cnt } hr
    | bump s => exact ih { st with regs := upd st.regs s (st.regs s + 1) } hr
    | sub x => exact ih st hr

/-- the consumer's own key: used plainly, and after each use the counter is incremented before the
    next use -/
def strictOKB (k : Key) : Bool → List (Item σ) → Bool
  | _, [] => true
  | f, .use r ty _ _ :: rest => if (r, ty) = k then f && strictOKB k false rest else strictOKB k f rest
  | f, .useSaved _ r ty _ _ :: rest => decide ((r, ty) ≠ k) && strictOKB k f rest
  | _, .inc :: rest => strictOKB k true rest
  | f, _ :: rest => strictOKB k f rest

/-- a key used as `strictOKB` asks gets strictly increasing stamps -/
theorem levelStamps_strict (k : Key) : ∀ (items : List (Item σ)) (st : LSt) (f : Bool),
    strictOKB k f items = true →
    (levelStamps k st items).Pairwise (· < ·) ∧
      ∀ x ∈ levelStamps k st items, st.cnt ≤ x ∧ (f = false → st.cnt < x) := by
  intro items
  induction items with
  | nil => intro st f _; simp [levelStamps]
  | cons it rest ih =>
    intro st f h
    cases it with
    | use r ty c pos =>
      simp only [strictOKB] at h
      simp only [levelStamps]
      split at h
      · rename_i hk
        simp only [Bool.and_eq_true] at h
        have := ih st false h.2
        simp only [hk, if_true, List.singleton_append, List.pairwise_cons, List.mem_cons]
        refine ⟨⟨fun x hx => (this.2 x hx).2 rfl, this.1⟩, ?_⟩
        intro x hx
        rcases hx with rfl | hx
        · exact ⟨Nat.le_refl _, fun hf => by simp [hf] at h⟩
        · exact ⟨(this.2 x hx).1, fun _ => (this.2 x hx).2 rfl⟩
      · rename_i hk
        simpa [hk] using ih st f h
    | useSaved s r ty c pos =>
      simp only [strictOKB, Bool.and_eq_true, decide_eq_true_eq] at h
      simpa [levelStamps, h.1] using ih st f h.2
    | inc =>
      simp only [strictOKB] at h
      have := ih { st with cnt := st.cnt + 1 } true h
      simp only [levelStamps]
      refine ⟨this.1, fun x hx => ?_⟩
      have := (this.2 x hx).1
      simp at this
      exact ⟨by omega, fun _ => by omega⟩
    | save s => exact ih { st with regs := upd st.regs s st.cnt } f h
    | bump s => exact ih { st with regs := upd st.regs s (st.regs s + 1) } f h
    | sub x => exact ih st f h

/-- a key that is only used through the saved copy in slot `s`, which is never bumped:
    the copy is refreshed from the counter, so its values only grow -/
theorem levelStamps_saved (k : Key) (s : Nat) : ∀ (items : List (Item σ)) (st : LSt),
    (∀ it ∈ items, itemKey it = some k → ∃ r ty c pos, it = .useSaved s r ty c pos) →
    (∀ it ∈ items, it ≠ .bump s) → st.regs s ≤ st.cnt →
    (levelStamps k st items).Pairwise (· ≤ ·) ∧ ∀ x ∈ levelStamps k st items, st.regs s ≤ x := by
  intro items
  induction items with
  | nil => intro st _ _ _; simp [levelStamps]
  | cons it rest ih =>
    intro st h hb hinv
    have hr : ∀ it ∈ rest, itemKey it = some k → ∃ r ty c pos, it = .useSaved s r ty c pos :=
      fun x hx => h x (by simp [hx])
    have hbr : ∀ it ∈ rest, it ≠ .bump s := fun x hx => hb x (by simp [hx])
    cases it with
    | use r ty c pos =>
      have hk : (r, ty) ≠ k := by
        intro e
        obtain ⟨_, _, _, _, e'⟩ := h (.use r ty c pos) (by simp) (by simp [itemKey, e])
        cases e'
      rw [levelStamps, if_neg hk]; exact ih st hr hbr hinv
    | useSaved s' r ty c pos =>
      have := ih st hr hbr hinv
      simp only [levelStamps]
      split
      · rename_i hk
        obtain ⟨_, _, _, _, e'⟩ := h (.useSaved s' r ty c pos) (by simp) (by simp [itemKey, hk])
        cases e'
        simp only [List.singleton_append, List.pairwise_cons, List.mem_cons]
        exact ⟨⟨this.2, this.1⟩, fun x hx => by rcases hx with rfl | hx; exact Nat.le_refl _; exact this.2 x hx⟩
      · simpa using this
    | inc => exact ih { st with cnt := st.cnt + 1 } hr hbr (Nat.le_succ_of_le hinv)
    | save s' =>
      by_cases hs : s' = s
      · subst hs
        have := ih { st with regs := upd st.regs s' st.cnt } hr hbr (Nat.le_of_eq (upd_same st.regs s' st.cnt))
        exact ⟨this.1, fun x hx => Nat.le_trans hinv (upd_same st.regs s' st.cnt ▸ this.2 x hx)⟩
      · have e : upd st.regs s' st.cnt s = st.regs s := upd_other _ _ _ _ (Ne.symm hs)
        have := ih { st with regs := upd st.regs s' st.cnt } hr hbr (Nat.le_trans (Nat.le_of_eq e) hinv)
        exact ⟨this.1, fun x hx => e ▸ this.2 x hx⟩
    | bump s' =>
      have hs : s' ≠ s := fun e => hb (.bump s') (List.mem_cons_self ..) (by rw [e])
      have e : upd st.regs s' (st.regs s' + 1) s = st.regs s := upd_other _ _ _ _ (Ne.symm hs)
      have := ih { st with regs := upd st.regs s' (st.regs s' + 1) } hr hbr (Nat.le_trans (Nat.le_of_eq e) hinv)
      exact ⟨this.1, fun x hx => e ▸ this.2 x hx⟩
    | sub x => exact ih st hr hbr hinv

end

/-- a source only increments the counter, uses keys from `plain` directly and keys from `saved`
    through its own saved copy (slot 1) -/
def SrcItem (plain saved : List Key) : Item PEmpty → Prop
  | .use r ty _ _ => (r, ty) ∈ plain
  | .useSaved s r ty _ _ => s = 1 ∧ (r, ty) ∈ saved
  | .inc => True
  | .save s => s = 1
  | .bump _ => False
  | .sub _ => False

def SrcSteps {β : Type} (plain saved : List Key) (steps : List (Step β)) : Prop :=
  ∀ i, Step.emit i ∈ steps → SrcItem plain saved i

theorem SrcSteps.tail {β : Type} {plain saved : List Key} {x : Step β} {steps : List (Step β)}
    (h : SrcSteps plain saved (x :: steps)) : SrcSteps plain saved steps :=
  fun i hi => h i (by simp [hi])

/-- a map on streams that turns nothing but calls into calls, and leaves those alone -/
theorem SrcSteps.map_emit {β γ : Type} {plain saved : List Key} {steps : List (Step β)} {g : Step β → Step γ}
    (hg : ∀ s i, g s = .emit i → s = .emit i) (h : SrcSteps plain saved steps) :
    SrcSteps plain saved (steps.map g) := fun i hi => by
  obtain ⟨s, hs, e⟩ := List.mem_map.1 hi
  exact h i (hg s i e ▸ hs)

theorem SrcSteps.map {β γ : Type} {plain saved : List Key} {steps : List (Step β)} (f : Int → β → γ)
    (h : SrcSteps plain saved steps) :
    SrcSteps plain saved (steps.map (fun s => match s with | .emit i => .emit i | .yield c p => .yield c (f c p))) := by
  exact h.map_emit (fun s i e => by cases s <;> cases e <;> rfl)

section
variable {β : Type} {P S : List Key}

theorem SrcSteps.nil : SrcSteps P S ([] : List (Step β)) := fun _ h => nomatch h

theorem SrcSteps.emit {i : Item PEmpty} {l : List (Step β)} (hi : SrcItem P S i) (h : SrcSteps P S l) :
    SrcSteps P S (.emit i :: l) := fun j hj => by
  rcases List.mem_cons.1 hj with e | hj
  · cases e; exact hi
  · exact h j hj

theorem SrcSteps.yield {c : Int} {p : β} {l : List (Step β)} (h : SrcSteps P S l) :
    SrcSteps P S (.yield c p :: l) := fun j hj => by
  rcases List.mem_cons.1 hj with e | hj
  · cases e
  · exact h j hj

theorem SrcSteps.append {l1 l2 : List (Step β)} (h1 : SrcSteps P S l1) (h2 : SrcSteps P S l2) :
    SrcSteps P S (l1 ++ l2) := fun j hj => (List.mem_append.1 hj).elim (h1 j) (h2 j)

theorem SrcSteps.emits {l : List (Item PEmpty)} (h : ∀ i ∈ l, SrcItem P S i) :
    SrcSteps P S (l.map (Step.emit (β := β))) := fun j hj => by
  obtain ⟨i, hi, e⟩ := List.mem_map.1 hj
  exact Step.emit.inj e ▸ h i hi

theorem SrcSteps.mono {Q : List Key} {steps : List (Step β)} (h : SrcSteps P S steps)
    (hPQ : ∀ k ∈ P, k ∈ Q) : SrcSteps Q S steps := by
  intro i hi
  have := h i hi
  cases i with
  | use r ty c pos => exact hPQ _ this
  | inc => trivial
  | _ => exact this

end

theorem optUse_src (t : Bool) (rank ty : String) (c : Int) (pos : Nat) (plain saved : List Key)
    (hk : (rank, ty) ∈ plain) : ∀ i ∈ optUse t rank ty c pos, SrcItem plain saved i := by
  intro i hi
  unfold optUse at hi
  split at hi
  · cases List.mem_singleton.1 hi; exact hk
  · cases hi

theorem andSteps_src {α β : Type} (rank tyA tyB : String) (ta tb : Bool) (ap bp : List Nat) (a : Fib Int α) (b : Fib Int β) :
    SrcSteps [(rank, tyA), (rank, tyB)] [] (andSteps rank tyA tyB ta tb ap bp a b) := by
  have hA := fun c pos => optUse_src ta rank tyA c pos [(rank, tyA), (rank, tyB)] [] (List.mem_cons_self ..)
  have hB := fun c pos => optUse_src tb rank tyB c pos [(rank, tyA), (rank, tyB)] []
    (List.mem_cons_of_mem _ (List.mem_cons_self ..))
  fun_induction andSteps rank tyA tyB ta tb ap bp a b with
  | case1 => exact .emit trivial .nil
  | case2 => exact (SrcSteps.emits (hA _ _)).append (.emit trivial .nil)
  | case3 => exact (SrcSteps.emits (hB _ _)).append (.emit trivial .nil)
  | case4 ap bp ca pa ra pb rb ih =>
    exact (SrcSteps.emits (fun i hi => (List.mem_append.1 hi).elim (hA _ _ i) (hB _ _ i))).append (.yield ih)
  | case5 ap bp ca pa ra cb pb rb hne hlt ih => exact (SrcSteps.emits (hA _ _)).append (.emit trivial ih)
  | case6 ap bp ca pa ra cb pb rb hne hlt ih => exact (SrcSteps.emits (hB _ _)).append (.emit trivial ih)

theorem pullStep_mem {β : Type} : ∀ (r : List (Step β)),
    (∀ i ∈ (pullStep r).1, Step.emit i ∈ r) ∧ (∀ s ∈ (pullStep r).2.2, s ∈ r)
  | [] => by simp [pullStep]
  | .emit i :: r => by
    obtain ⟨h1, h2⟩ := pullStep_mem r
    constructor
    · intro j hj
      simp only [pullStep, List.mem_cons] at hj
      rcases hj with rfl | hj
      · simp
      · simp [h1 j hj]
    · intro s hs
      simp only [pullStep] at hs
      simp [h2 s hs]
  | .yield c p :: r => by
    constructor
    · intro j hj; simp [pullStep] at hj
    · intro s hs; simp only [pullStep] at hs; simp [hs]

/-- `and_iterator` over a call-free left operand and a lazy right operand: its own uses, increments, and
    whatever the right operand calls -/
theorem andStream_src {α β : Type} (rank tyA tyB : String) (ta tb : Bool) (P : List Key)
    (hA : (rank, tyA) ∈ P) (hB : (rank, tyB) ∈ P) (ap bp : Nat) (a : Fib Int α) (cur : Option (Int × β))
    (rest : List (Step β)) (hrest : ∀ i, Step.emit i ∈ rest → SrcItem P [] i) :
    SrcSteps P [] (andStream rank tyA tyB ta tb ap bp a cur rest) := by
  have hA := fun c pos => optUse_src ta rank tyA c pos P [] hA
  have hB := fun c pos => optUse_src tb rank tyB c pos P [] hB
  -- what the right operand calls while it is asked for its next element, and what is left of it
  have hpull : ∀ rest : List (Step β), (∀ i, Step.emit i ∈ rest → SrcItem P [] i) →
      (∀ i ∈ (pullStep rest).1, SrcItem P [] i) ∧ ∀ i, Step.emit i ∈ (pullStep rest).2.2 → SrcItem P [] i :=
    fun rest h => ⟨fun i hi => h i ((pullStep_mem rest).1 i hi), fun i hi => h i ((pullStep_mem rest).2 _ hi)⟩
  fun_induction andStream rank tyA tyB ta tb ap bp a cur rest with
  | case1 => exact .emit trivial .nil
  | case2 => exact (SrcSteps.emits (hA _ _)).append (.emit trivial .nil)
  | case3 => exact (SrcSteps.emits (hB _ _)).append (.emit trivial .nil)
  | case4 ap bp xa ra ca xb rest ih =>
    exact (SrcSteps.emits (fun i hi => (List.mem_append.1 hi).elim (hA _ _ i) (hB _ _ i))).append
      (.yield ((SrcSteps.emits (hpull rest hrest).1).append (ih (hpull rest hrest).2)))
  | case5 ap bp ca xa ra cb xb rest hne hlt ih => exact (SrcSteps.emits (hA _ _)).append (.emit trivial (ih hrest))
  | case6 ap bp ca xa ra cb xb rest hne hlt ih =>
    exact (SrcSteps.emits (hB _ _)).append
      (.emit trivial ((SrcSteps.emits (hpull rest hrest).1).append (ih (hpull rest hrest).2)))

theorem lfSteps_src {α β : Type} (rankA rankB tyA tyB : String) (ta : Bool) (dfl : β) (b : Fib Int β) :
    ∀ (a : Fib Int α) (i : List Nat),
      SrcSteps [(rankA, tyA), (rankB, tyB)] [] (lfSteps rankA rankB tyA tyB ta dfl b i a)
  | [], _ => .nil
  | (_, _) :: rest, i =>
    (SrcSteps.emits (optUse_src _ _ _ _ _ _ _ (List.mem_cons_self ..))).append
      (.emit (List.mem_cons_of_mem _ (List.mem_cons_self ..)) (.yield (lfSteps_src rankA rankB tyA tyB ta dfl b rest i.tail)))

theorem projLoop_src {α : Type} (srcRank ty : String) (t : Bool) (off : Int) (lo hi : Option Int) :
    ∀ (a : Fib Int α) (j : List Nat), SrcSteps [] [(srcRank, ty)] (projLoop srcRank ty t off lo hi j a) := by
  intro a
  induction a with
  | nil => intro j; exact .nil
  | cons e rest ih =>
    intro j
    obtain ⟨oc, p⟩ := e
    simp only [projLoop]
    split
    · exact .nil
    · split
      · refine .yield (SrcSteps.append ?_ (ih j.tail))
        split
        · exact .emit ⟨rfl, List.mem_cons_self ..⟩ (.emit rfl .nil)
        · exact .nil
      · exact ih j.tail

theorem projSteps_src {α : Type} (srcRank ty : String) (t : Bool) (off : Int) (lo hi : Option Int) (pa : List Nat) (a : Fib Int α) :
    SrcSteps [] [(srcRank, ty)] (projSteps srcRank ty t off lo hi pa a) :=
  .emit rfl (projLoop_src srcRank ty t off lo hi a pa)

section
variable {σ : Type}

theorem itemKey_lift (i : Item PEmpty) : itemKey (i.lift : Item σ) = itemKey i := by
  cases i with
  | sub x => exact nomatch x
  | _ => rfl

theorem isSub_lift (i : Item PEmpty) : isSub (i.lift : Item σ) = false := by
  cases i with
  | sub x => exact nomatch x
  | _ => rfl

/-- an item of the consumer that is a source's item -/
def SrcLift (plain saved : List Key) (it : Item σ) : Prop :=
  ∃ i, SrcItem plain saved i ∧ it = i.lift

theorem SrcLift.isSub {plain saved : List Key} {it : Item σ} (h : SrcLift plain saved it) : isSub it = false := by
  obtain ⟨i, _, rfl⟩ := h
  exact isSub_lift i

theorem SrcLift.key {plain saved : List Key} {it : Item σ} (h : SrcLift plain saved it) {k : Key}
    (hk : itemKey it = some k) :
    (isSaved it = false ∧ k ∈ plain) ∨ (k ∈ saved ∧ ∃ r ty c pos, it = .useSaved 1 r ty c pos) := by
  obtain ⟨i, hi, rfl⟩ := h
  cases i with
  | use r ty c pos => cases hk; exact Or.inl ⟨rfl, hi⟩
  | useSaved s r ty c pos =>
    cases hk
    obtain ⟨rfl, h2⟩ := hi
    exact Or.inr ⟨h2, r, ty, c, pos, rfl⟩
  | sub x => exact nomatch x
  | _ => cases hk

theorem SrcLift.not_bump {plain saved : List Key} {it : Item σ} (h : SrcLift plain saved it) (s : Nat) :
    it ≠ .bump s := by
  obtain ⟨i, hi, rfl⟩ := h
  cases i with
  | bump s' => exact hi.elim
  | sub x => exact nomatch x
  | _ => nofun

end

/-- the order the property asks of the level stamps of key `k`: strict for `iter` -/
def LevelSorted {σ : Type} (k : Key) (items : List (Item σ)) : Prop :=
  chainB (if k.2 == "iter" then ltB else leB) (levelStamps k {} items) = true

theorem levelSorted_of_le {σ : Type} (k : Key) (items : List (Item σ)) (hk : k.2 ≠ "iter")
    (h : (levelStamps k {} items).Pairwise (· ≤ ·)) : LevelSorted k items := by
  unfold LevelSorted
  have : (k.2 == "iter") = false := by simpa using hk
  rw [this]
  apply chainB_of_pairwise
  exact h.imp (fun hab => by simpa [leB] using hab)

theorem levelSorted_of_lt {σ : Type} (k : Key) (items : List (Item σ))
    (h : (levelStamps k {} items).Pairwise (· < ·)) : LevelSorted k items := by
  unfold LevelSorted
  split
  · apply chainB_of_pairwise
    exact h.imp (fun hab => by simpa [ltB] using hab)
  · apply chainB_of_pairwise
    exact h.imp (fun hab => by simp [leB]; omega)

theorem levelSorted_of_nil {σ : Type} (k : Key) (items : List (Item σ))
    (h : levelStamps k {} items = []) : LevelSorted k items := by
  unfold LevelSorted; rw [h]; rfl

section
variable {σ : Type}

/-- The items of one execution of a loop over `rank`: the iterators' own items, which satisfy `E`, and
    between them the rounds `addUse(rank, …, "iter")`, loop body, `incIter` (for a dense walk without
    the use), with loop bodies that satisfy `B`. -/
inductive Rounds (rank : String) (B : σ → Prop) (E : Item σ → Prop) : List (Item σ) → Prop
  | nil : Rounds rank B E []
  | item {it : Item σ} {l : List (Item σ)} : E it → Rounds rank B E l → Rounds rank B E (it :: l)
  | round {c j : Int} {x : σ} {l : List (Item σ)} : B x → Rounds rank B E l →
      Rounds rank B E (.use rank "iter" c j :: .sub x :: .inc :: l)
  | body {x : σ} {l : List (Item σ)} : B x → Rounds rank B E l → Rounds rank B E (.sub x :: .inc :: l)

variable {rank : String} {B : σ → Prop} {E : Item σ → Prop} {items : List (Item σ)}

theorem Rounds.prepend {a l : List (Item σ)} (ha : ∀ it ∈ a, E it) (h : Rounds rank B E l) :
    Rounds rank B E (a ++ l) := by
  induction a with
  | nil => exact h
  | cons it a ih => exact .item (ha it (by simp)) (ih (fun x hx => ha x (by simp [hx])))

/-- what is not one of the iterators' own items is the loop's `iter` use, a loop body or an increment -/
theorem Rounds.mem (h : Rounds rank B E items) : ∀ it ∈ items, E it ∨
    (isSaved it = false ∧ (∀ s, it ≠ .bump s) ∧ (∀ k, itemKey it = some k → k = (rank, "iter")) ∧
      ∀ x, it = .sub x → B x) := by
  induction h with
  | nil => intro it hi; cases hi
  | item he _ ih =>
    intro it hi
    rcases List.mem_cons.1 hi with rfl | hi
    · exact Or.inl he
    · exact ih it hi
  | round hb _ ih =>
    intro it hi
    simp only [List.mem_cons] at hi
    rcases hi with rfl | rfl | rfl | hi
    · exact Or.inr ⟨rfl, nofun, fun k hk => (Option.some.inj hk).symm, nofun⟩
    · exact Or.inr ⟨rfl, nofun, nofun, fun x hx => by cases hx; exact hb⟩
    · exact Or.inr ⟨rfl, nofun, nofun, nofun⟩
    · exact ih it hi
  | body hb _ ih =>
    intro it hi
    simp only [List.mem_cons] at hi
    rcases hi with rfl | rfl | hi
    · exact Or.inr ⟨rfl, nofun, nofun, fun x hx => by cases hx; exact hb⟩
    · exact Or.inr ⟨rfl, nofun, nofun, nofun⟩
    · exact ih it hi

/-- the loop body runs once per round, and every round ends with an increment -/
theorem Rounds.sep (h : Rounds rank B E items) (hE : ∀ it, E it → isSub it = false) :
    sepB true items = true := by
  induction h with
  | nil => rfl
  | item he _ ih => rw [sepB_cons (hE _ he)]; exact ih
  | round _ _ ih => exact ih
  | body _ _ ih => exact ih

theorem Rounds.subs (h : Rounds rank B E items) (hE : ∀ it, E it → isSub it = false) :
    ∀ x ∈ subsOf items, B x := by
  intro x hx
  rcases h.mem _ ((mem_subsOf x items).1 hx) with he | ⟨_, _, _, hb⟩
  · cases hE _ he
  · exact hb x rfl

theorem Rounds.keys (h : Rounds rank B E items) {Q : Key → Prop} (hq : Q (rank, "iter"))
    (hE : ∀ it, E it → ∀ k, itemKey it = some k → Q k) : ∀ it ∈ items, ∀ k, itemKey it = some k → Q k := by
  intro it hi k hk
  rcases h.mem it hi with he | ⟨_, _, hkey, _⟩
  · exact hE it he k hk
  · rw [hkey k hk]; exact hq

theorem strictOKB_cons {k : Key} {it : Item σ} (h : itemKey it ≠ some k) (l : List (Item σ)) :
    strictOKB k true (it :: l) = strictOKB k true l := by
  cases it with
  | use r ty c pos =>
    have : (r, ty) ≠ k := fun e => h (congrArg some e)
    simp only [strictOKB, this, if_false]
  | useSaved s r ty c pos =>
    have : (r, ty) ≠ k := fun e => h (congrArg some e)
    simp [strictOKB, this]
  | _ => rfl

/-- the loop's own `iter` key is used once per round, before the increment -/
theorem Rounds.strict (h : Rounds rank B E items) (hE : ∀ it, E it → itemKey it ≠ some (rank, "iter")) :
    strictOKB (rank, "iter") true items = true := by
  induction h with
  | nil => rfl
  | item he _ ih => rw [strictOKB_cons (hE _ he)]; exact ih
  | round _ _ ih => simpa [strictOKB] using ih
  | body _ _ ih => exact ih

theorem Rounds.sorted_iter (h : Rounds rank B E items)
    (hE : ∀ it, E it → ∀ k, itemKey it = some k → k.2 ≠ "iter") (k : Key) (hk : k.2 = "iter") :
    LevelSorted k items := by
  by_cases e : k = (rank, "iter")
  · subst e
    exact levelSorted_of_lt _ _
      (levelStamps_strict _ _ {} true (h.strict (fun it he hkey => hE it he _ hkey rfl))).1
  · apply levelSorted_of_nil
    apply levelStamps_nokey
    intro it hi hkey
    rcases h.mem it hi with he | ⟨_, _, hk', _⟩
    · exact hE it he k hkey hk
    · exact e (hk' k hkey)

/-- a key the iterators never use through a saved copy -/
theorem Rounds.sorted_plain (h : Rounds rank B E items) (k : Key) (hk : k.2 ≠ "iter")
    (hE : ∀ it, E it → isSaved it = true → itemKey it ≠ some k) : LevelSorted k items := by
  apply levelSorted_of_le _ _ hk
  refine (levelStamps_plain k _ {} ?_).1
  intro it hi hs
  rcases h.mem it hi with he | ⟨hns, _⟩
  · exact hE it he hs
  · rw [hns] at hs; cases hs

/-- a key the iterators only use through the saved copy in slot `s`, which they never bump -/
theorem Rounds.sorted_saved (h : Rounds rank B E items) (k : Key) (s : Nat) (hk : k.2 ≠ "iter")
    (h1 : ∀ it, E it → itemKey it = some k → ∃ r ty c pos, it = .useSaved s r ty c pos)
    (h2 : ∀ it, E it → it ≠ .bump s) : LevelSorted k items := by
  apply levelSorted_of_le _ _ hk
  refine (levelStamps_saved k s _ {} ?_ ?_ (Nat.le_refl _)).1
  · intro it hi hkey
    rcases h.mem it hi with he | ⟨_, _, hk', _⟩
    · exact h1 it he hkey
    · exact absurd (by rw [hk' k hkey]) hk
  · intro it hi
    rcases h.mem it hi with he | ⟨_, hb, _⟩
    · exact h2 it he
    · exact hb s

end

section
variable {σ S β : Type}

theorem lazyItems_rounds (rank : String) (body : S → Int → β → S × σ) (plain saved : List Key)
    {B : σ → Prop} (hB : ∀ s c p, B (body s c p).2) :
    ∀ (steps : List (Step β)) (s : S) (j : Nat), SrcSteps plain saved steps →
      Rounds rank B (SrcLift plain saved) (lazyItems rank body s j steps).2 := by
  intro steps
  induction steps with
  | nil => intro s j _; exact .nil
  | cons x rest ih =>
    intro s j hsrc
    cases x with
    | emit i => exact .item ⟨i, hsrc i (by simp), rfl⟩ (ih s j hsrc.tail)
    | yield c p => exact .round (hB s c p) (ih _ _ hsrc.tail)

theorem lazyItems_sorted (rank : String) (body : S → Int → β → S × σ) (plain saved : List Key)
    (hty : ∀ k ∈ plain ++ saved, k.2 ≠ "iter") (hdisj : ∀ k ∈ saved, k ∉ plain)
    (steps : List (Step β)) (s : S) (j : Nat) (hsrc : SrcSteps plain saved steps) (k : Key) :
    LevelSorted k (lazyItems rank body s j steps).2 := by
  have hr := lazyItems_rounds rank body plain saved (B := fun _ => True) (fun _ _ _ => trivial) steps s j hsrc
  by_cases hit : k.2 = "iter"
  · refine hr.sorted_iter (fun it he k' hk' => ?_) k hit
    rcases he.key hk' with h | h
    · exact hty k' (List.mem_append.2 (Or.inl h.2))
    · exact hty k' (List.mem_append.2 (Or.inr h.1))
  · by_cases hsv : k ∈ saved
    · exact hr.sorted_saved k 1 hit
        (fun it he hkey => (he.key hkey).elim (fun h => absurd h.2 (hdisj k hsv)) (·.2))
        (fun it he => he.not_bump 1)
    · refine hr.sorted_plain k hit (fun it he hs hkey => ?_)
      rcases he.key hkey with h | h
      · rw [h.1] at hs; cases hs
      · exact hsv h.1

end

section
variable {σ S π : Type}

theorem iterItems_rounds (rank : String) (emptyP : π → Bool) (body : S → Int → π → S × σ)
    {B : σ → Prop} (hB : ∀ s c p, B (body s c p).2) :
    ∀ (f : Fib Int π) (s : S) (j : Nat), Rounds rank B (fun _ => False) (iterItems rank emptyP body s j f).2 := by
  intro f
  induction f with
  | nil => intro s j; exact .nil
  | cons e rest ih =>
    intro s j
    obtain ⟨c, p⟩ := e
    simp only [iterItems]
    split
    · exact ih _ _
    · exact .round (hB s c p) (ih _ _)

theorem iterItems_sorted (rank : String) (emptyP : π → Bool) (body : S → Int → π → S × σ)
    (f : Fib Int π) (s : S) (j : Nat) (k : Key) :
    LevelSorted k (iterItems rank emptyP body s j f).2 := by
  have hr := iterItems_rounds rank emptyP body (B := fun _ => True) (fun _ _ _ => trivial) f s j
  by_cases hit : k.2 = "iter"
  · exact hr.sorted_iter (fun _ he => he.elim) k hit
  · exact hr.sorted_plain k hit (fun _ he => he.elim)

end

section
variable {σ S π : Type}

/-- the only key a dense walk touches is the untraceable `(rank, None)`, used plainly -/
theorem denseItems_rounds (rank : String) (ref : Bool) (dfl : π) (f : Fib Int π) (body : S → Int → π → S × σ)
    {B : σ → Prop} (hB : ∀ s c p, B (body s c p).2) :
    ∀ (n : Nat) (s : S) (c : Nat),
      Rounds rank B (fun it => ∃ c' pos, it = .use rank "" c' pos) (denseItems rank ref dfl f body s c n).2 := by
  intro n
  induction n with
  | zero => intro s c; exact .nil
  | succ n ih =>
    intro s c
    simp only [denseItems]
    refine .prepend (fun it hi => ?_) (.body (hB _ _ _) (ih _ _))
    split at hi
    · exact ⟨_, _, List.mem_singleton.1 hi⟩
    · cases hi

theorem denseItems_sorted (rank : String) (ref : Bool) (dfl : π) (f : Fib Int π) (body : S → Int → π → S × σ)
    (n : Nat) (s : S) (c : Nat) (k : Key) : LevelSorted k (denseItems rank ref dfl f body s c n).2 := by
  have hr := denseItems_rounds rank ref dfl f body (B := fun _ => True) (fun _ _ _ => trivial) n s c
  by_cases hit : k.2 = "iter"
  · refine hr.sorted_iter (fun it he k' hk' => ?_) k hit
    obtain ⟨c', pos, rfl⟩ := he
    cases hk'
    show "" ≠ "iter"
    decide
  · refine hr.sorted_plain k hit (fun it he hs => ?_)
    obtain ⟨c', pos, rfl⟩ := he
    cases hs

end

section
variable {σ : Type}

theorem advance_cnt_le : ∀ (items : List (Item σ)) (st : LSt), st.cnt ≤ (advance st items).cnt := by
  intro items
  induction items with
  | nil => intro st; exact Nat.le_refl _
  | cons it rest ih =>
    intro st
    cases it with
    | inc => have := ih { st with cnt := st.cnt + 1 }; simp only [advance]; simp at this; omega
    | use r ty c pos => exact ih st
    | useSaved s r ty c pos => exact ih st
    | save s => exact ih { st with regs := upd st.regs s st.cnt }
    | bump s => exact ih { st with regs := upd st.regs s (st.regs s + 1) }
    | sub x => exact ih st

/-- items that only use keys directly and increment the counter -/
def PlainInc (items : List (Item σ)) : Prop :=
  ∀ it ∈ items, it = .inc ∨ ∃ r ty c pos, it = .use r ty c pos

theorem plainInc_upper (k : Key) : ∀ (items : List (Item σ)) (st : LSt), PlainInc items →
    ∀ x ∈ levelStamps k st items, x ≤ (advance st items).cnt := by
  intro items
  induction items with
  | nil => intro st _ x hx; simp [levelStamps] at hx
  | cons it rest ih =>
    intro st h x hx
    have hr : PlainInc rest := fun y hy => h y (by simp [hy])
    rcases h it (by simp) with rfl | ⟨r, ty, c, pos, rfl⟩
    · simp only [levelStamps] at hx; simpa [advance] using ih _ hr x hx
    · simp only [levelStamps, List.mem_append] at hx
      rcases hx with hx | hx
      · split at hx
        · simp at hx; subst hx; simpa [advance] using advance_cnt_le rest st
        · simp at hx
      · simpa [advance] using ih _ hr x hx

theorem plainInc_saved (items : List (Item σ)) (h : PlainInc items) : ∀ it ∈ items, isSaved it = false := by
  intro it hi
  rcases h it hi with rfl | ⟨r, ty, c, pos, rfl⟩ <;> rfl

end

section
variable {σ π β : Type}

/-- the traced search of an inserting populate reads under one key and ticks -/
theorem scanReads_mem (emptyP : π → Bool) (rank ty : String) (oldEnd bc : Int) (nIns : Nat) :
    ∀ (f : Fib Int π) (k : Nat) (it : Item σ), it ∈ scanReads emptyP rank ty oldEnd bc nIns k f →
      it = .inc ∨ ∃ c pos, it = .use rank ty c pos
  | [], _, _, h => nomatch h
  | (c, p) :: rest, k, it, h => by
    simp only [scanReads] at h
    split at h
    · cases h
    · rcases List.mem_append.1 h with h | h
      · split at h
        · rcases List.mem_cons.1 h with rfl | h
          · exact Or.inr ⟨_, _, rfl⟩
          · exact Or.inl (List.mem_singleton.1 h)
        · cases h
      · exact scanReads_mem emptyP rank ty oldEnd bc nIns rest (k + 1) it h

variable (cfg : PopCfg) (mk : π) (rm : Bool → π → Bool) (emptyP : π → Bool) (body : Int → π → β → π × σ)

/-- before the element is looked up: the source's use, then the search -/
theorem popPre_mem {st : PopSt π} {ins : Bool} {bc : Int} {it : Item σ} (h : it ∈ popPre cfg emptyP st ins bc) :
    it = .inc ∨ it = .use cfg.rank cfg.srcTy bc (match st.bposs with | some l => l.headD 0 | none => st.bpos) ∨
      ∃ c pos, it = .use cfg.rank cfg.readTy c pos := by
  unfold popPre at h
  rcases List.mem_append.1 h with h | h <;> split at h
  · exact Or.inr (Or.inl (List.mem_singleton.1 h))
  · cases h
  · exact (scanReads_mem emptyP _ _ _ _ _ _ _ it h).imp id Or.inr
  · cases h

theorem popPre_plain (st : PopSt π) (ins : Bool) (bc : Int) : PlainInc (popPre (σ := σ) cfg emptyP st ins bc) :=
  fun _ hi => (popPre_mem cfg emptyP hi).imp id
    (fun h => h.elim (fun e => ⟨_, _, _, _, e⟩) (fun ⟨c, pos, e⟩ => ⟨_, _, c, pos, e⟩))

theorem popRd_cases (new : Bool) (bc pos : Int) :
    popRd (σ := σ) cfg new bc pos = [] ∨ popRd (σ := σ) cfg new bc pos = [.use cfg.rank cfg.readTy bc pos] := by
  unfold popRd; split
  · exact Or.inr rfl
  · exact Or.inl rfl

theorem popPost_cases (removed : Bool) (bc wp : Int) :
    popPost (σ := σ) cfg removed bc wp = [] ∨
      popPost (σ := σ) cfg removed bc wp = [.bump 0, .useSaved 0 cfg.rank cfg.writeTy bc wp, .inc] := by
  unfold popPost; split
  · exact Or.inr rfl
  · exact Or.inl rfl

/-- what one offered element makes the iterators call, piece by piece -/
theorem popYield_items (st : PopSt π) (bc : Int) (bp : β) :
    ∃ (ins new removed : Bool) (cur : π) (rp wp : Int),
      (popYield cfg mk rm emptyP body st bc bp).2 =
        popPre cfg emptyP st ins bc ++ .save 0 :: (popRd cfg new bc rp ++
          .use cfg.rank "iter" bc st.bpos :: .sub (body bc cur bp).2 :: .inc :: popPost cfg removed bc wp) :=
  ⟨_, _, _, _, _, _, rfl⟩

/-- every branch of `popYield` advances the source's position by one -/
theorem popYield_pos (st : PopSt π) (bc : Int) (bp : β) :
    (popYield cfg mk rm emptyP body st bc bp).1.bpos = st.bpos + 1 ∧
    (popYield cfg mk rm emptyP body st bc bp).1.bposs = st.bposs.map List.tail := by
  simp only [popYield, apply_ite PopSt.bpos, apply_ite PopSt.bposs, ite_self, and_self]

/-- the trace types of a populate are pairwise different and none is `iter` -/
structure PopTypesOK (cfg : PopCfg) : Prop where
  rw : cfg.readTy ≠ cfg.writeTy
  rs : cfg.readTy ≠ cfg.srcTy
  ws : cfg.writeTy ≠ cfg.srcTy
  ri : cfg.readTy ≠ "iter"
  wi : cfg.writeTy ≠ "iter"
  si : cfg.srcTy ≠ "iter"

/-- one offered element after the search, seen from a destination-side key: the counter is saved, the
    read is stamped with it, and after the consumer's round the write is stamped with the bumped copy -/
theorem popCore (ok : PopTypesOK cfg) (k : Key)
    (hk : k = (cfg.rank, cfg.readTy) ∨ k = (cfg.rank, cfg.writeTy))
    (x : σ) (new removed : Bool) (bc rp wp : Int) (j : Nat) (st : LSt) (l : List (Item σ))
    (hl : l = .save 0 :: (popRd cfg new bc rp ++
      .use cfg.rank "iter" bc j :: .sub x :: .inc :: popPost cfg removed bc wp)) :
    (advance st l).regs 0 ≤ (advance st l).cnt ∧ st.cnt ≤ (advance st l).regs 0 ∧
    (levelStamps k st l).Pairwise (· ≤ ·) ∧
    ∀ y ∈ levelStamps k st l, st.cnt ≤ y ∧ y ≤ (advance st l).regs 0 := by
  subst hl
  have hi1 : (cfg.rank, "iter") ≠ k := by
    rcases hk with rfl | rfl
    · intro e; exact ok.ri (Prod.mk.inj e).2.symm
    · intro e; exact ok.wi (Prod.mk.inj e).2.symm
  have hrw : (cfg.rank, cfg.readTy) ≠ (cfg.rank, cfg.writeTy) := fun e => ok.rw (Prod.mk.inj e).2
  -- with or without the read, with or without the write: four short concrete lists per key, evaluated
  rcases hk with rfl | rfl <;>
  rcases popRd_cases (σ := σ) cfg new bc rp with e1 | e1 <;>
  rcases popPost_cases (σ := σ) cfg removed bc wp with e2 | e2 <;>
  rw [e1, e2] <;>
  simp [levelStamps, advance, hi1, hrw, hrw.symm, upd_same]

/-- one offered element, seen from a destination-side key: its stamps lie between the saved copy
    before and after the element, and the saved copy stays below the counter -/
theorem popBlock (ok : PopTypesOK cfg) (k : Key)
    (hk : k = (cfg.rank, cfg.readTy) ∨ k = (cfg.rank, cfg.writeTy))
    (pre : List (Item σ)) (hpre : PlainInc pre)
    (x : σ) (new removed : Bool) (bc rp wp : Int) (j : Nat)
    (st : LSt) (hinv : st.regs 0 ≤ st.cnt) (blk : List (Item σ))
    (hblk : blk = pre ++ .save 0 :: (popRd cfg new bc rp ++
      .use cfg.rank "iter" bc j :: .sub x :: .inc :: popPost cfg removed bc wp)) :
    (advance st blk).regs 0 ≤ (advance st blk).cnt ∧ st.regs 0 ≤ (advance st blk).regs 0 ∧
    (levelStamps k st blk).Pairwise (· ≤ ·) ∧
    ∀ y ∈ levelStamps k st blk, st.regs 0 ≤ y ∧ y ≤ (advance st blk).regs 0 := by
  subst hblk
  -- the search uses the key directly: its stamps lie between the counter before and after it
  have hA := levelStamps_plain k pre st (fun it hi hs => by rw [plainInc_saved pre hpre it hi] at hs; cases hs)
  have hU := plainInc_upper k pre st hpre
  have hC := advance_cnt_le pre st
  obtain ⟨c1, c2, c3, c4⟩ := popCore cfg ok k hk x new removed bc rp wp j (advance st pre) _ rfl
  rw [advance_append, levelStamps_append]
  refine ⟨c1, by omega, ?_, fun y hy => ?_⟩
  · rw [List.pairwise_append]
    exact ⟨hA.1, c3, fun a ha b hb => Nat.le_trans (hU a ha) (c4 b hb).1⟩
  · rcases List.mem_append.1 hy with hy | hy
    · exact ⟨Nat.le_trans hinv (hA.2 y hy), Nat.le_trans (hU y hy) c2⟩
    · exact ⟨by have := (c4 y hy).1; omega, (c4 y hy).2⟩

/-- a round of the move phase: the saved copy is bumped, then used for the read and the write -/
theorem moveLoop_cons (zlen i : Nat) (ti : List Int) (c : Int) (rest : List Int) :
    ∃ (U : List (Item σ)) (ti' : List Int),
      (∀ it ∈ U, (∃ c pos, it = .useSaved 0 cfg.rank cfg.readTy c pos) ∨
        ∃ c pos, it = .useSaved 0 cfg.rank cfg.writeTy c pos) ∧
      moveLoop cfg zlen i ti (c :: rest) = .bump 0 :: (U ++ moveLoop cfg zlen (i + 1) ti' rest) := by
  refine ⟨_, _, ?_, rfl⟩
  intro it hi
  rcases List.mem_append.1 hi with hi | hi <;> split at hi
  · exact Or.inl ⟨_, _, List.mem_singleton.1 hi⟩
  · cases hi
  · exact Or.inr ⟨_, _, List.mem_singleton.1 hi⟩
  · cases hi

theorem moveLoop_mem' (zlen : Nat) : ∀ (els : List Int) (i : Nat) (ti : List Int) (it : Item σ),
    it ∈ moveLoop (σ := σ) cfg zlen i ti els →
      it = .bump 0 ∨ (∃ c pos, it = .useSaved 0 cfg.rank cfg.readTy c pos) ∨
        (∃ c pos, it = .useSaved 0 cfg.rank cfg.writeTy c pos) := by
  intro els
  induction els with
  | nil => intro i ti it h; cases h
  | cons c rest ih =>
    intro i ti it h
    obtain ⟨U, ti', hU, e⟩ := moveLoop_cons (σ := σ) cfg zlen i ti c rest
    rw [e] at h
    rcases List.mem_cons.1 h with rfl | h
    · exact Or.inl rfl
    · rcases List.mem_append.1 h with h | h
      · exact Or.inr (hU it h)
      · exact ih _ _ it h

/-- uses through slot 0 only: the local state stays, every stamp is the saved copy -/
theorem savedUses_stamps (k : Key) (st : LSt) : ∀ (l : List (Item σ)),
    (∀ it ∈ l, ∃ r ty c pos, it = .useSaved 0 r ty c pos) →
      advance st l = st ∧ ∀ y ∈ levelStamps k st l, y = st.regs 0
  | [], _ => ⟨rfl, nofun⟩
  | it :: l, h => by
    obtain ⟨r, ty, c, pos, rfl⟩ := h it (List.mem_cons_self ..)
    obtain ⟨e1, e2⟩ := savedUses_stamps k st l (fun x hx => h x (List.mem_cons_of_mem _ hx))
    refine ⟨e1, fun y hy => ?_⟩
    rcases List.mem_append.1 hy with hy | hy
    · split at hy
      · exact List.mem_singleton.1 hy
      · cases hy
    · exact e2 y hy

theorem moveLoop_dest (k : Key) (zlen : Nat) :
    ∀ (els : List Int) (i : Nat) (ti : List Int) (st : LSt),
      (levelStamps k st (moveLoop (σ := σ) cfg zlen i ti els)).Pairwise (· ≤ ·) ∧
      ∀ y ∈ levelStamps k st (moveLoop (σ := σ) cfg zlen i ti els), st.regs 0 ≤ y := by
  intro els
  induction els with
  | nil => intro i ti st; exact ⟨List.Pairwise.nil, nofun⟩
  | cons c rest ih =>
    intro i ti st
    obtain ⟨U, ti', hU, e⟩ := moveLoop_cons (σ := σ) cfg zlen i ti c rest
    obtain ⟨e1, e2⟩ := savedUses_stamps k { st with regs := upd st.regs 0 (st.regs 0 + 1) } U
      (fun it hi => (hU it hi).elim (fun ⟨c, p, h⟩ => ⟨_, _, c, p, h⟩) (fun ⟨c, p, h⟩ => ⟨_, _, c, p, h⟩))
    obtain ⟨p1, p2⟩ := ih (i + 1) ti' { st with regs := upd st.regs 0 (st.regs 0 + 1) }
    have hr : ({ st with regs := upd st.regs 0 (st.regs 0 + 1) } : LSt).regs 0 = st.regs 0 + 1 :=
      upd_same st.regs 0 _
    rw [hr] at e2 p2
    rw [e, levelStamps, levelStamps_append, e1]
    constructor
    · rw [List.pairwise_append]
      exact ⟨List.pairwise_of_forall_mem_list (fun a ha b hb => by rw [e2 a ha, e2 b hb]; exact Nat.le_refl _),
        p1, fun a ha b hb => by rw [e2 a ha]; exact p2 b hb⟩
    · intro y hy
      rcases List.mem_append.1 hy with hy | hy
      · rw [e2 y hy]; exact Nat.le_succ _
      · exact Nat.le_of_succ_le (p2 y hy)

/-- a source item, seen from a key the source does not use and a slot it does not touch -/
theorem srcItem_skip (plain saved : List Key) (k : Key) (hk : k ∉ plain ++ saved) (i : Item PEmpty)
    (hi : SrcItem plain saved i) (rest : List (Item σ)) (st : LSt) :
    ∃ st' : LSt, levelStamps k st (i.lift :: rest) = levelStamps k st' rest ∧
      st'.regs 0 = st.regs 0 ∧ st.cnt ≤ st'.cnt := by
  cases i with
  | sub x => exact nomatch x
  | inc => exact ⟨{ st with cnt := st.cnt + 1 }, rfl, rfl, by simp⟩
  | use r ty c pos =>
    have : (r, ty) ≠ k := by intro e; apply hk; rw [← e]; exact List.mem_append.2 (Or.inl hi)
    exact ⟨st, by simp [Item.lift, levelStamps, this], rfl, Nat.le_refl _⟩
  | useSaved s r ty c pos =>
    have : (r, ty) ≠ k := by intro e; apply hk; rw [← e]; exact List.mem_append.2 (Or.inr hi.2)
    exact ⟨st, by simp [Item.lift, levelStamps, this], rfl, Nat.le_refl _⟩
  | save s =>
    have hs : s = 1 := hi
    subst hs
    exact ⟨{ st with regs := upd st.regs 1 st.cnt }, rfl, by simp [upd_other], Nat.le_refl _⟩
  | bump s => exact hi.elim

/-- the destination-side keys of `z << src`: non-decreasing stamps through the main phase and the
    move phase -/
theorem popItems_dest (ok : PopTypesOK cfg) (plain saved : List Key) (k : Key)
    (hk : k = (cfg.rank, cfg.readTy) ∨ k = (cfg.rank, cfg.writeTy)) (hks : k ∉ plain ++ saved) :
    ∀ (steps : List (Step β)) (pst : PopSt π) (st : LSt), SrcSteps plain saved steps → st.regs 0 ≤ st.cnt →
      (levelStamps k st (popItems cfg mk rm emptyP body pst steps).2).Pairwise (· ≤ ·) ∧
      ∀ y ∈ levelStamps k st (popItems cfg mk rm emptyP body pst steps).2, st.regs 0 ≤ y := by
  intro steps
  induction steps with
  | nil =>
    intro pst st _ _
    simp only [popItems, moveItems]
    split
    · exact moveLoop_dest cfg k _ _ _ _ st
    · exact ⟨List.Pairwise.nil, nofun⟩
  | cons x rest ih =>
    intro pst st hsrc hinv
    cases x with
    | emit i =>
      simp only [popItems]
      obtain ⟨st', e, hr, hc⟩ := srcItem_skip plain saved k hks i (hsrc i (by simp)) _ st
      rw [e, ← hr]
      exact ih pst st' hsrc.tail (by omega)
    | yield c bp =>
      simp only [popItems]
      obtain ⟨ins, new, removed, cur, rp, wp, e⟩ := popYield_items cfg mk rm emptyP body pst c bp
      rw [e, levelStamps_append]
      obtain ⟨b1, b0, b2, b3⟩ := popBlock cfg ok k hk _ (popPre_plain (σ := σ) cfg emptyP pst ins c)
        (body c cur bp).2 new removed c rp wp pst.bpos st hinv _ rfl
      obtain ⟨r1, r2⟩ := ih (popYield cfg mk rm emptyP body pst c bp).1 _ hsrc.tail b1
      constructor
      · rw [List.pairwise_append]
        refine ⟨b2, r1, fun a ha b hb => ?_⟩
        have := (b3 a ha).2
        have := r2 b hb
        omega
      · intro y hy
        rcases List.mem_append.1 hy with hy | hy
        · exact (b3 y hy).1
        · have h1 := r2 y hy
          omega

/-- the items `z << src` contributes itself, apart from the consumer's rounds and the source's items:
    they use the source key directly, the read key directly or through the saved copy in slot 0, and
    the write key through that copy -/
def PopOwn (it : Item σ) : Prop :=
  isSub it = false ∧ it ≠ .bump 1 ∧ ∀ k, itemKey it = some k →
    (k = (cfg.rank, cfg.readTy) ∨ k = (cfg.rank, cfg.writeTy)) ∨ (isSaved it = false ∧ k = (cfg.rank, cfg.srcTy))

theorem moveItems_own (pst : PopSt π) : ∀ it ∈ moveItems (σ := σ) cfg emptyP pst, PopOwn cfg it := by
  intro it hi
  unfold moveItems at hi
  split at hi
  · rcases moveLoop_mem' cfg _ _ _ _ it hi with rfl | ⟨c, pos, rfl⟩ | ⟨c, pos, rfl⟩
    · exact ⟨rfl, by simp, nofun⟩
    · exact ⟨rfl, nofun, fun k hk => Or.inl (Or.inl (Option.some.inj hk).symm)⟩
    · exact ⟨rfl, nofun, fun k hk => Or.inl (Or.inr (Option.some.inj hk).symm)⟩
  · cases hi

theorem popPre_own (st : PopSt π) (ins : Bool) (bc : Int) :
    ∀ it ∈ popPre (σ := σ) cfg emptyP st ins bc, PopOwn cfg it := by
  intro it hi
  rcases popPre_mem cfg emptyP hi with rfl | rfl | ⟨c, pos, rfl⟩
  · exact ⟨rfl, nofun, nofun⟩
  · exact ⟨rfl, nofun, fun k hk => Or.inr ⟨rfl, (Option.some.inj hk).symm⟩⟩
  · exact ⟨rfl, nofun, fun k hk => Or.inl (Or.inl (Option.some.inj hk).symm)⟩

theorem popRd_own (new : Bool) (bc pos : Int) : ∀ it ∈ popRd (σ := σ) cfg new bc pos, PopOwn cfg it := by
  intro it hi
  rcases popRd_cases (σ := σ) cfg new bc pos with e | e <;> rw [e] at hi
  · cases hi
  · rw [List.mem_singleton.1 hi]
    exact ⟨rfl, nofun, fun k hk => Or.inl (Or.inl (Option.some.inj hk).symm)⟩

theorem popPost_own (removed : Bool) (bc wp : Int) :
    ∀ it ∈ popPost (σ := σ) cfg removed bc wp, PopOwn cfg it := by
  intro it hi
  rcases popPost_cases (σ := σ) cfg removed bc wp with e | e <;> rw [e] at hi
  · cases hi
  · simp only [List.mem_cons, List.not_mem_nil, or_false] at hi
    rcases hi with rfl | rfl | rfl
    · exact ⟨rfl, by simp, nofun⟩
    · exact ⟨rfl, nofun, fun k hk => Or.inl (Or.inr (Option.some.inj hk).symm)⟩
    · exact ⟨rfl, nofun, nofun⟩

/-- `z << src` consumed by `iterRange`: per offered element the search and the read of the destination,
    the consumer's round, the write -/
theorem popItems_rounds (plain saved : List Key) {B : σ → Prop} (hB : ∀ c cur bp, B (body c cur bp).2) :
    ∀ (steps : List (Step β)) (pst : PopSt π), SrcSteps plain saved steps →
      Rounds cfg.rank B (fun it => PopOwn cfg it ∨ SrcLift plain saved it)
        (popItems cfg mk rm emptyP body pst steps).2 := by
  intro steps
  induction steps with
  | nil =>
    intro pst _
    have h := Rounds.prepend (rank := cfg.rank) (B := B)
      (fun it hi => Or.inl (moveItems_own cfg emptyP pst it hi)) (.nil (E := fun it => PopOwn cfg it ∨ SrcLift plain saved it))
    rwa [List.append_nil] at h
  | cons x rest ih =>
    intro pst hsrc
    cases x with
    | emit i => exact .item (Or.inr ⟨i, hsrc i (by simp), rfl⟩) (ih pst hsrc.tail)
    | yield c bp =>
      simp only [popItems]
      obtain ⟨ins, new, removed, cur, rp, wp, e⟩ := popYield_items cfg mk rm emptyP body pst c bp
      rw [e]
      simp only [List.append_assoc, List.cons_append]
      exact .prepend (fun it hi => Or.inl (popPre_own cfg emptyP pst ins c it hi))
        (.item (Or.inl ⟨rfl, nofun, nofun⟩)
          (.prepend (fun it hi => Or.inl (popRd_own cfg new c rp it hi))
            (.round (hB c cur bp)
              (.prepend (fun it hi => Or.inl (popPost_own cfg removed c wp it hi)) (ih _ hsrc.tail)))))

theorem popItems_sorted (ok : PopTypesOK cfg) (plain saved : List Key)
    (hty : ∀ k ∈ plain ++ saved, k.2 ≠ "iter") (hdisj : ∀ k ∈ saved, k ∉ plain)
    (hpop : ∀ k ∈ plain ++ saved, k ≠ (cfg.rank, cfg.srcTy) ∧ k ≠ (cfg.rank, cfg.readTy) ∧ k ≠ (cfg.rank, cfg.writeTy))
    (steps : List (Step β)) (pst : PopSt π) (hsrc : SrcSteps plain saved steps) (k : Key) :
    LevelSorted k (popItems cfg mk rm emptyP body pst steps).2 := by
  have hr := popItems_rounds cfg mk rm emptyP body plain saved (B := fun _ => True) (fun _ _ _ => trivial) steps pst hsrc
  by_cases hit : k.2 = "iter"
  · refine hr.sorted_iter (fun it he k' hk' => ?_) k hit
    rcases he with he | he
    · rcases he.2.2 k' hk' with (h | h) | h
      · rw [h]; exact ok.ri
      · rw [h]; exact ok.wi
      · rw [h.2]; exact ok.si
    · rcases he.key hk' with h | h
      · exact hty k' (List.mem_append.2 (Or.inl h.2))
      · exact hty k' (List.mem_append.2 (Or.inr h.1))
  · by_cases hd : k = (cfg.rank, cfg.readTy) ∨ k = (cfg.rank, cfg.writeTy)
    · have hks : k ∉ plain ++ saved := by
        intro h
        rcases hd with rfl | rfl
        · exact (hpop _ h).2.1 rfl
        · exact (hpop _ h).2.2 rfl
      exact levelSorted_of_le _ _ hit
        (popItems_dest cfg mk rm emptyP body ok plain saved k hd hks steps pst {} hsrc (Nat.le_refl _)).1
    · by_cases hsv : k ∈ saved
      · -- a saved key of the source: `z <<` itself neither uses it nor touches slot 1
        have hp := hpop k (List.mem_append.2 (Or.inr hsv))
        refine hr.sorted_saved k 1 hit (fun it he hkey => ?_) (fun it he => he.elim (·.2.1) (·.not_bump 1))
        rcases he with he | he
        · rcases he.2.2 k hkey with h | h
          · exact absurd h hd
          · exact absurd h.2 hp.1
        · exact (he.key hkey).elim (fun h => absurd h.2 (hdisj k hsv)) (·.2)
      · refine hr.sorted_plain k hit (fun it he hs hkey => ?_)
        rcases he with he | he
        · rcases he.2.2 k hkey with h | h
          · exact hd h
          · rw [h.1] at hs; cases hs
        · rcases he.key hkey with h | h
          · rw [h.1] at hs; cases hs
          · exact hsv h.1

end

end Ft.C16
