/-
  Lemmas for C07 (namespace `Ft.C07`): what each definition of FtModel/Traverse.lean does, and the
  normal form `nf` through which the `project` pipeline is compared with its specification.
-/
import FtModel.Traverse
import FtProofs.Lemmas.MutLemmas
import FtProofs.C05
set_option linter.unusedSectionVars false
namespace Ft.C07
open Ft StrictTotal

section
variable {κ π : Type}

theorem strip_withPos (f : Fib κ π) : strip (withPos f) = f := by
  unfold strip withPos
  rw [List.map_map]
  exact List.zipIdx_map_fst 0 f

theorem mem_withPos_iff {f : Fib κ π} {c : κ} {i : Nat} {p : π} :
    (c, (i, p)) ∈ withPos f ↔ f[i]? = some (c, p) := by
  refine Iff.trans ?_ (List.mem_zipIdx_iff_getElem? (x := ((c, p), i)))
  unfold withPos
  rw [List.mem_map]
  constructor
  · rintro ⟨⟨⟨c', p'⟩, j⟩, hx, hxe⟩
    cases hxe
    exact hx
  · intro h
    exact ⟨_, h, rfl⟩

theorem strip_filter (P : κ × π → Bool) (l : Fib κ (Nat × π)) :
    strip (l.filter (fun x => P (x.1, x.2.2))) = (strip l).filter P := by
  unfold strip
  rw [List.filter_map]
  rfl

theorem mem_take_withPos {f : Fib κ π} {n : Nat} {x : κ × (Nat × π)} (hx : x ∈ (withPos f).take n) :
    (x.1, x.2.2) ∈ f.take n := by
  have : (x.1, x.2.2) ∈ strip ((withPos f).take n) := List.mem_map.2 ⟨x, hx, rfl⟩
  rwa [strip, List.map_take, ← strip, strip_withPos] at this

theorem mem_of_mem_withPos {f : Fib κ π} {x : κ × (Nat × π)} (hx : x ∈ withPos f) : (x.1, x.2.2) ∈ f :=
  List.mem_of_getElem? (mem_withPos_iff.1 hx)

end

section
variable {κ π : Type} [LT κ] [DecidableRel (α := κ) (· < ·)]

theorem rangeLoop_none (emp : π → Bool) (f : Fib κ π) :
    rangeLoop emp none none f = f.filter (fun x => !emp x.2) := by
  fun_induction rangeLoop emp none none f with
  | case1 => rfl
  | case2 _ _ _ h => cases h
  | case3 c p r _ hk ih => rw [List.filter_cons, if_pos (show (!emp (c, p).2) = true from hk), ih]
  | case4 c p r _ hk ih => rw [List.filter_cons, if_neg (show ¬ (!emp (c, p).2) = true from hk), ih]

theorem rangeLoop_sublist (emp : π → Bool) (s e : Option κ) (f : Fib κ π) : (rangeLoop emp s e f).Sublist f := by
  fun_induction rangeLoop emp s e f with
  | case1 => exact List.Sublist.slnil
  | case2 => exact List.nil_sublist _
  | case3 _ _ _ _ _ ih => exact ih.cons_cons _
  | case4 _ _ _ _ _ ih => exact ih.cons _

end

section generic
variable {κ : Type} [LT κ] [DecidableRel (α := κ) (· < ·)] [DecidableEq κ] [StrictTotal κ]
variable {π ρ : Type}

theorem geStart_of_lt {s : Option κ} {c c' : κ} (h : geStart s c = true) (hlt : c < c') : geStart s c' = true := by
  cases s with
  | none => rfl
  | some s =>
    simp only [geStart, Bool.not_eq_true', decide_eq_false_iff_not] at h ⊢
    intro h'; exact h (trans hlt h')

theorem geEnd_of_lt {e : Option κ} {c c' : κ} (h : geEnd e c = true) (hlt : c < c') : geEnd e c' = true := by
  cases e with
  | none => exact h
  | some e => exact geStart_of_lt (s := some e) h hlt

theorem rangeLoop_eq_filter (emp : π → Bool) (s e : Option κ) (f : Fib κ π) (hs : Sorted f) :
    rangeLoop emp s e f = rangeSpec emp s e f := by
  unfold rangeSpec
  have hin : ∀ (c : κ) (p : π), ¬ geEnd e c = true → inSlice emp s e (c, p) = (geStart s c && !emp p) :=
    fun c p h => by simp [inSlice, h, Bool.and_comm]
  fun_induction rangeLoop emp s e f with
  | case1 => rfl
  | case2 c p r hge =>
    -- `break`: on an ascending list everything that follows is at or beyond `end` too
    symm
    rw [List.filter_eq_nil_iff]
    intro x hx
    have : geEnd e x.1 = true := by
      rcases List.mem_cons.1 hx with rfl | hx
      · exact hge
      · exact geEnd_of_lt hge (hs.head_lt x hx)
    simp [inSlice, this]
  | case3 c p r hge hk ih => rw [List.filter_cons, hin c p hge, if_pos hk, ih hs.tail]
  | case4 c p r hge hk ih => rw [List.filter_cons, hin c p hge, if_neg hk, ih hs.tail]

theorem withPos_length (f : Fib κ π) : (withPos f).length = f.length := by
  simp [withPos]

/-- sortedness is a matter of the coordinates alone -/
theorem withPos_sorted {f : Fib κ π} (h : Sorted f) : Sorted (withPos f) := by
  have : Sorted (strip (withPos f)) := by rwa [strip_withPos]
  unfold Sorted strip at this
  rw [List.pairwise_map] at this
  exact this

theorem lookup_withPos_map (f : Fib κ π) (c : κ) : (lookup (withPos f) c).map (·.2) = lookup f c := by
  rw [← lookup_map_payload (withPos f) (fun _ ip => ip.2) c]
  exact congrArg (lookup · c) (strip_withPos f)

theorem iterRange_eq_filter (emp : π → Bool) (s e : Option κ) (sp : Option Nat) {f : Fib κ π} (hs : Sorted f) :
    iterRange emp s e sp f =
      ((withPos f).drop (sp.getD 0)).filter (fun x => inSlice emp s e (x.1, x.2.2)) :=
  rangeLoop_eq_filter _ s e _ ((withPos_sorted hs).sublist (List.drop_sublist _ _))

end generic

theorem pyRange_nil {s e : Int} {k : Nat} (h : ¬ (s < e ∧ 0 < k)) : pyRange s e k = [] := by
  rw [pyRange]; simp [h]

theorem pyRange_cons {s e : Int} {k : Nat} (h : s < e ∧ 0 < k) :
    pyRange s e k = s :: pyRange (s + k) e k := by
  rw [pyRange]; simp [h]

theorem pyRangeDown_cons {s e : Int} {k : Nat} (h : e < s ∧ 0 < k) :
    pyRangeDown s e k = s :: pyRangeDown (s - k) e k := by
  rw [pyRangeDown]; simp [h]

theorem mem_pyRange (s e : Int) (k : Nat) (c : Int) :
    c ∈ pyRange s e k ↔ 0 < k ∧ c < e ∧ ∃ n : Nat, c = s + n * k := by
  fun_induction pyRange s e k with
  | case1 s h ih =>
    have step : ∀ n : Nat, s + (k : Int) + n * k = s + (n + 1 : Nat) * k := fun n => by
      rw [Int.natCast_succ, Int.add_mul, Int.one_mul, Int.add_assoc, Int.add_comm (k : Int)]
    rw [List.mem_cons, ih]
    constructor
    · rintro (rfl | ⟨hk, hlt, n, rfl⟩)
      · exact ⟨h.2, h.1, 0, by simp⟩
      · exact ⟨hk, hlt, n + 1, step n⟩
    · rintro ⟨hk, hlt, n, rfl⟩
      cases n with
      | zero => left; simp
      | succ n => right; exact ⟨hk, hlt, n, (step n).symm⟩
  | case2 s h =>
    simp only [List.not_mem_nil, false_iff]
    rintro ⟨hk, hlt, n, rfl⟩
    have : (0 : Int) ≤ n * k := Int.mul_nonneg (Int.natCast_nonneg n) (Int.natCast_nonneg k)
    exact h ⟨Int.lt_of_le_of_lt (Int.le_add_of_nonneg_right this) hlt, hk⟩

theorem mem_pyRange_one (s e c : Int) : c ∈ pyRange s e 1 ↔ s ≤ c ∧ c < e := by
  rw [mem_pyRange]
  constructor
  · rintro ⟨_, hlt, n, rfl⟩
    exact ⟨Int.le_add_of_nonneg_right (Int.mul_nonneg (Int.natCast_nonneg n) (Int.natCast_nonneg 1)), hlt⟩
  · rintro ⟨h1, h2⟩
    exact ⟨Nat.one_pos, h2, (c - s).toNat, by
      rw [Int.toNat_of_nonneg (Int.sub_nonneg.2 h1), Int.natCast_one, Int.mul_one, Int.add_comm, Int.sub_add_cancel]⟩

theorem pyRange_ascending (s e : Int) (k : Nat) : (pyRange s e k).Pairwise (· < ·) := by
  fun_induction pyRange s e k with
  | case1 s h ih =>
    refine List.pairwise_cons.2 ⟨fun c hc => ?_, ih⟩
    obtain ⟨_, _, n, rfl⟩ := (mem_pyRange _ _ _ c).1 hc
    have : (0 : Int) ≤ n * k := Int.mul_nonneg (Int.natCast_nonneg n) (Int.natCast_nonneg k)
    exact Int.lt_of_lt_of_le (Int.lt_add_of_pos_right s (Int.natCast_pos.2 h.2)) (Int.le_add_of_nonneg_right this)
  | case2 s h => exact List.Pairwise.nil

theorem pyRangeDown_eq_neg (s e : Int) (k : Nat) : pyRangeDown s e k = (pyRange (-s) (-e) k).map (- ·) := by
  fun_induction pyRangeDown s e k with
  | case1 s h ih =>
    have : -(s - (k : Int)) = -s + k := by rw [Int.neg_sub, Int.sub_eq_add_neg, Int.add_comm]
    rw [pyRange_cons ⟨Int.neg_lt_neg h.1, h.2⟩, List.map_cons, Int.neg_neg, ih, this]
  | case2 s h => rw [pyRange_nil fun h' => h ⟨Int.lt_of_neg_lt_neg h'.1, h'.2⟩]; rfl

section shape
variable {π : Type}

theorem getPos_eq_lookupPos (mk : π) {f : Fib Int π} (hs : Sorted f) (c : Int) :
    getPos mk f c = lookupPos mk f c := by
  unfold getPos lookupPos
  rw [posLookup_eq_lookup (withPos_sorted hs)]

theorem shapeIter_eq_spec (mk : π) {f : Fib Int π} (hs : Sorted f) (cs : List Int) :
    shapeIter mk f cs = shapeSpec mk f cs :=
  List.map_congr_left fun c _ => by rw [getPos_eq_lookupPos mk hs]

theorem lookup_posrefF (mk : π) {f : Fib Int π} (hs : Sorted f) (c c' : Int) :
    lookup (posrefF mk f c) c' = if c' = c then some ((lookup f c).getD mk) else lookup f c' := by
  unfold posrefF insertIfMissing
  rw [posLookup_eq_lookup hs]
  cases hl : lookup f c with
  | some p =>
    by_cases h : c' = c
    · subst h; simp [hl]
    · simp [h]
  | none =>
    simp only
    rw [lookup_insertAt hl]
    simp

/-- `getPayloadRef` changes no stored-or-default payload, at the coordinate asked for or elsewhere -/
theorem lookup_posrefF_getD (mk : π) {f : Fib Int π} (hs : Sorted f) (c c' : Int) :
    (lookup (posrefF mk f c) c').getD mk = (lookup f c').getD mk := by
  rw [lookup_posrefF mk hs]
  by_cases h : c' = c
  · subst h; simp
  · simp [h]

theorem refExpect_getD (mk : π) (f : Fib Int π) (cs : List Int) (c : Int) :
    (refExpect mk f cs c).getD mk = (lookup f c).getD mk := by
  unfold refExpect
  cases lookup f c with
  | some p => rfl
  | none => simp only []; split <;> rfl

theorem refExpect_ne_none {mk : π} {f : Fib Int π} {cs : List Int} {c : Int} (hc : c ∈ cs) :
    refExpect mk f cs c ≠ none := by
  unfold refExpect
  cases lookup f c <;> simp [hc]

/-- `Rank.append`, one fiber at a time -/
theorem rankExtent_snoc (sibs : List (Fib Int π)) (g : Fib Int π) :
    rankExtent (sibs ++ [g]) =
      if estShape g = 0 then rankExtent sibs else match rankExtent sibs with
        | none => some (estShape g)
        | some o => some (if o < estShape g then estShape g else o) := by
  unfold rankExtent
  rw [List.foldl_append]
  rfl

theorem coRefStep_eq (mk : π) (c : Int) (fs : List (Fib Int π)) :
    coRefStep mk c fs = (fs.map (fun f => posrefF mk f c), fs.map (fun f => (posLookup f c).getD mk)) := by
  induction fs with
  | nil => rfl
  | cons f fs ih =>
    unfold coRefStep
    rw [ih]
    rfl

theorem stored_filter (P : Int → π → Bool) (l : Fib Int (Nat × π)) :
    (stored l).filter (fun x => P x.1 x.2.2) = stored (l.filter (fun x => P x.1 x.2.2)) := by
  unfold stored
  rw [List.filter_map]
  rfl

theorem stored_sorted {l : Fib Int (Nat × π)} (h : Sorted l) : Sorted (stored l) :=
  sorted_map_key l _ h

theorem inSlice_bounds {ρ : Type} (emp : ρ → Bool) (lo hi : Int) (x : Int × ρ) :
    inSlice emp (some lo) (some hi) x = (!emp x.2 && inIv (some (lo, hi)) x.1) := by
  simp only [inSlice, inIv, geStart, geEnd, Bool.not_not, ← Int.not_lt, decide_not, Bool.and_assoc]

theorem shapeSpec_sorted (mk : π) (f : Fib Int π) {cs : List Int} (h : cs.Pairwise (· < ·)) :
    Sorted (shapeSpec mk f cs) := by
  unfold shapeSpec Sorted
  rw [List.pairwise_map]
  exact h

/-- the stored non-empty elements with their positions -/
def occ (emp : π → Bool) (f : Fib Int π) : Fib Int (Option Nat × π) :=
  stored ((withPos f).filter (fun x => !emp x.2.2))

theorem occ_sorted (emp : π → Bool) {f : Fib Int π} (hs : Sorted f) : Sorted (occ emp f) :=
  stored_sorted ((withPos_sorted hs).filter _)

theorem mem_occ {emp : π → Bool} {f : Fib Int π} {x : Int × (Option Nat × π)} :
    x ∈ occ emp f ↔ ∃ c i p, f[i]? = some (c, p) ∧ emp p = false ∧ x = (c, (some i, p)) := by
  unfold occ stored
  rw [List.mem_map]
  constructor
  · rintro ⟨⟨c, i, p⟩, hy, rfl⟩
    obtain ⟨h1, h2⟩ := List.mem_filter.1 hy
    exact ⟨c, i, p, mem_withPos_iff.1 h1, (Bool.not_eq_true' _).mp h2, rfl⟩
  · rintro ⟨c, i, p, hi, he, rfl⟩
    exact ⟨(c, (i, p)), List.mem_filter.2 ⟨mem_withPos_iff.2 hi, (Bool.not_eq_true' _).mpr he⟩, rfl⟩

theorem occ_congr {emp emp' : π → Bool} {f : Fib Int π} (h : ∀ x ∈ f, emp' x.2 = emp x.2) :
    occ emp' f = occ emp f := by
  unfold occ
  exact congrArg stored (List.filter_congr fun x hx => by rw [h _ (mem_of_mem_withPos hx)])

theorem occ_split (emp : π → Bool) (f : Fib Int π) (n : Nat) :
    occ emp f = stored (((withPos f).take n).filter (fun x => !emp x.2.2)) ++
      stored (((withPos f).drop n).filter (fun x => !emp x.2.2)) := by
  unfold occ stored
  rw [← List.map_append, ← List.filter_append, List.take_append_drop]

theorem iterDefault_C (emp : π → Bool) (mk : π) {cfg : Cfg} (hf : cfg.fmt = .C) (sp : Option Nat) (f : Fib Int π) :
    iterDefault emp mk cfg sp f = stored (((withPos f).drop (sp.getD 0)).filter (fun x => !emp x.2.2)) := by
  unfold iterDefault iterRange
  rw [hf]
  simp only
  rw [rangeLoop_none]

theorem iterDefaultSpec_C (emp : π → Bool) (mk : π) {cfg : Cfg} (hf : cfg.fmt = .C) (f : Fib Int π) :
    iterDefaultSpec emp mk cfg f = occ emp f := by
  unfold iterDefaultSpec occ; rw [hf]

theorem iterDefaultSpec_U (emp : π → Bool) (mk : π) {cfg : Cfg} (hf : cfg.fmt = .U) (f : Fib Int π) :
    iterDefaultSpec emp mk cfg f = shapeSpec mk f (pyRange (getActive cfg f).1 (getActive cfg f).2 1) := by
  unfold iterDefaultSpec; rw [hf]

theorem iterDefault_U (emp : π → Bool) (mk : π) {cfg : Cfg} (hf : cfg.fmt = .U) {f : Fib Int π} (hs : Sorted f)
    (sp : Option Nat) : iterDefault emp mk cfg sp f = iterDefaultSpec emp mk cfg f := by
  rw [iterDefaultSpec_U emp mk hf]
  unfold iterDefault
  rw [hf]
  exact shapeIter_eq_spec mk hs _

theorem iterDefault_sorted (emp : π → Bool) (mk : π) (cfg : Cfg) (sp : Option Nat) {f : Fib Int π} (hs : Sorted f) :
    Sorted (iterDefault emp mk cfg sp f) := by
  cases hf : cfg.fmt with
  | C =>
    rw [iterDefault_C emp mk hf]
    exact stored_sorted (((withPos_sorted hs).sublist (List.drop_sublist _ _)).filter _)
  | U =>
    rw [iterDefault_U emp mk hf hs, iterDefaultSpec_U emp mk hf]
    exact shapeSpec_sorted mk f (pyRange_ascending _ _ 1)

end shape

section proj
variable {π ρ : Type}

theorem ivLoop_eq (iv : Option (Int × Int)) {l : Fib Int ρ} (hs : Sorted l) :
    ivLoop iv l = l.filter (fun x => inIv iv x.1) := by
  cases iv with
  | none => exact (List.filter_eq_self.2 fun _ _ => rfl).symm
  | some p =>
    exact (rangeLoop_eq_filter _ _ _ l hs).trans (List.filter_congr fun x _ => inSlice_bounds _ p.1 p.2 x)

theorem lazyIter_eq (emp : ρ → Bool) (os oe : Option Int) {l : Fib Int ρ} (hs : Sorted l) :
    lazyIter emp os oe l = l.filter (inSlice emp os oe) :=
  rangeLoop_eq_filter emp os oe l hs

/-- the normal form of the pipeline: transform, then keep what lies in the interval and in the
    range the result is iterated with -/
def nf (k m : Int) (iv : Option (Int × Int)) (os oe : Option Int) (src : Fib Int ρ) : Fib Int ρ :=
  (transF k m src).filter (fun x => inIv iv x.1 && geStart os x.1 && !geEnd oe x.1)

/-- the interval loop and the final range loop are filters on an ascending sequence; the latter
    also drops what is empty -/
theorem pipeline_eq_nf (emp : π → Bool) (k m : Int) (iv : Option (Int × Int)) (os oe : Option Int)
    {src : Fib Int (Option Nat × π)} (hs : Sorted (transF k m src)) :
    lazyIter (fun y : Option Nat × π => emp y.2) os oe (ivLoop iv (transF k m src)) =
      nf k m iv os oe (src.filter (fun x => !emp x.2.2)) := by
  rw [ivLoop_eq iv hs, lazyIter_eq _ os oe (hs.filter _), List.filter_filter]
  unfold nf transF
  rw [List.filter_map, List.filter_map, List.filter_filter]
  refine congrArg (List.map _) (List.filter_congr fun x _ => ?_)
  -- the same four tests on both sides, conjoined in a different order
  simp only [Function.comp, inSlice]
  cases emp x.2.2 <;> simp [Bool.and_assoc, Bool.and_comm]

theorem nf_append (k m : Int) (iv : Option (Int × Int)) (os oe : Option Int) (a b : Fib Int ρ) :
    nf k m iv os oe (a ++ b) = nf k m iv os oe a ++ nf k m iv os oe b := by
  simp [nf, transF, List.filter_append]

theorem nf_reverse (k m : Int) (iv : Option (Int × Int)) (os oe : Option Int) (a : Fib Int ρ) :
    nf k m iv os oe a.reverse = (nf k m iv os oe a).reverse := by
  simp [nf, transF, List.filter_reverse, List.map_reverse]

theorem stored_filter_nonempty (emp : π → Bool) (l : Fib Int (Nat × π)) :
    (stored (l.filter (fun x => !emp x.2.2))).filter (fun x => !emp x.2.2) =
      stored (l.filter (fun x => !emp x.2.2)) := by
  rw [stored_filter (fun _ p => !emp p), List.filter_filter]
  exact congrArg stored (List.filter_congr fun x _ => Bool.and_self _)

/-- `transF` is `Fiber.updateCoords` without the re-sorting -/
theorem transF_sorted_pos {k : Int} (hk : 0 < k) (m : Int) {l : Fib Int ρ} (hs : Sorted l) :
    Sorted (transF k m l) := by
  have h := updCoordsF_sorted k m (Int.ne_of_gt hk) l hs
  unfold updCoordsF at h
  simp only [if_neg (Int.lt_asymm hk)] at h
  exact h

theorem transF_sorted_neg {k : Int} (hk : k < 0) (m : Int) {l : Fib Int ρ} (hs : Sorted l) :
    Sorted (transF k m l.reverse) := by
  have h := updCoordsF_sorted k m (Int.ne_of_lt hk) l hs
  unfold updCoordsF at h
  simp only [if_pos hk, ← List.map_reverse] at h
  exact h

theorem projectSpec_eq_nf (emp : π → Bool) (k m : Int) (iv : Option (Int × Int)) (os oe : Option Int) (f : Fib Int π) :
    projectSpec emp k m iv os oe f =
      if k < 0 then (nf k m iv os oe (occ emp f)).reverse else nf k m iv os oe (occ emp f) :=
  rfl

theorem revInner_eq (emp : π → Bool) (f : Fib Int π) : revInner emp f = (occ emp f).reverse := by
  unfold revInner occ stored
  rw [rangeLoop_none, List.filter_reverse, List.map_reverse]

/-- `trans_fn(0) > trans_fn(1)`, the test for an order-reversing transform, fails for `k > 0` -/
theorem not_reversing_of_pos {k : Int} (hk : 0 < k) (m : Int) : ¬ k * 0 + m > k * 1 + m :=
  Int.lt_asymm (Int.add_lt_add_right (Int.mul_lt_mul_of_pos_left Int.zero_lt_one hk) m)

theorem project_of_neg (emp : π → Bool) (mk : π) (cfg : Cfg) {k : Int} (hk : k < 0) (m : Int)
    (iv : Option (Int × Int)) (os oe : Option Int) (f : Fib Int π) :
    project emp mk cfg k m iv none os oe f =
      .ok (lazyIter (fun x : Option Nat × π => emp x.2) os oe (ivLoop iv (transF k m (revInner emp f)))) := by
  unfold project projectRaw
  have h2 : decide (k * 0 + m > k * 1 + m) = true :=
    decide_eq_true (Int.add_lt_add_right (Int.mul_lt_mul_of_neg_left Int.zero_lt_one hk) m)
  simp only [h2, if_true, Option.isSome_none, Bool.false_eq_true, if_false]
  rfl

theorem project_of_pos (emp : π → Bool) (mk : π) (cfg : Cfg) {k : Int} (hk : 0 < k) (m : Int)
    (iv : Option (Int × Int)) (sp : Option Nat) (os oe : Option Int) {f : Fib Int π}
    (hok : projStartOk k m iv sp f = true) :
    project emp mk cfg k m iv sp os oe f =
      .ok (lazyIter (fun x : Option Nat × π => emp x.2) os oe (ivLoop iv (transF k m (iterDefault emp mk cfg sp f)))) := by
  unfold project projectRaw
  have h2 : decide (k * 0 + m > k * 1 + m) = false := decide_eq_false (not_reversing_of_pos hk m)
  simp only [Bool.false_eq_true, if_false, h2, hok, Bool.not_true]
  rfl

theorem projStartOk_of_valid {emp : π → Bool} {k m : Int} {iv : Option (Int × Int)} {sp : Nat} {f : Fib Int π}
    (hv : projValidStart emp k m iv sp f = true) : projStartOk k m iv (some sp) f = true := by
  unfold projValidStart at hv
  unfold projStartOk
  rw [Bool.and_eq_true] at hv ⊢
  refine ⟨hv.1, ?_⟩
  cases iv with
  | none => rfl
  | some p => exact hv.2

theorem skipped_of_projValidStart {emp : π → Bool} {k : Int} (hk : 0 < k) {m : Int} {iv : Option (Int × Int)}
    {sp : Nat} {f : Fib Int π} (hs : Sorted f) (hv : projValidStart emp k m iv sp f = true) :
    ∀ z ∈ f.take sp, emp z.2 = true ∨ inIv iv (k * z.1 + m) = false := by
  unfold projValidStart at hv
  rw [Bool.and_eq_true] at hv
  obtain ⟨_, hv⟩ := hv
  intro z hz
  cases iv with
  | none => exact Or.inl (List.all_eq_true.1 hv z hz)
  | some p =>
    obtain ⟨lo, hi⟩ := p
    cases sp with
    | zero => cases hz
    | succ n =>
      simp only [Nat.add_sub_cancel, Bool.or_eq_true] at hv
      rcases hv with hv | hv
      · simp at hv
      · cases hy : f[n]? with
        | none => rw [hy] at hv; cases hv
        | some y =>
          rw [hy] at hv
          -- everything skipped lies at or below `y`, which projects below the interval
          have := Int.mul_le_mul_of_nonneg_left (mem_take_le hs hy z hz) (Int.le_of_lt hk)
          have hlo : ¬ lo ≤ k * z.1 + m :=
            Int.not_le.2 (Int.lt_of_le_of_lt (Int.add_le_add_right this m) (of_decide_eq_true hv))
          right
          simp [inIv, hlo]

/-- forward path, compressed rank: a traversal from a valid start position misses only elements
    that do not reach the result -/
theorem nf_iterDefault_C (emp : π → Bool) (mk : π) {cfg : Cfg} (hf : cfg.fmt = .C) {k : Int} (hk : 0 < k) (m : Int)
    (iv : Option (Int × Int)) (sp : Option Nat) (os oe : Option Int) {f : Fib Int π} (hs : Sorted f)
    (hsp : ∀ i, sp = some i → projValidStart emp k m iv i f = true) :
    nf k m iv os oe ((iterDefault emp mk cfg sp f).filter (fun x => !emp x.2.2)) = nf k m iv os oe (occ emp f) := by
  rw [iterDefault_C emp mk hf, stored_filter_nonempty, occ_split emp f (sp.getD 0), nf_append]
  have hskip : ∀ z ∈ f.take (sp.getD 0), emp z.2 = true ∨ inIv iv (k * z.1 + m) = false := by
    cases sp with
    | none => intro z hz; cases hz
    | some n => exact skipped_of_projValidStart hk hs (hsp n rfl)
  -- nothing of the skipped prefix belongs to the result
  have hpre : nf k m iv os oe (stored (((withPos f).take (sp.getD 0)).filter (fun x => !emp x.2.2))) = [] := by
    unfold nf
    rw [List.filter_eq_nil_iff]
    intro r hr
    obtain ⟨a, ha, rfl⟩ := List.mem_map.1 hr
    obtain ⟨x, hx, rfl⟩ := List.mem_map.1 ha
    obtain ⟨hx1, hx2⟩ := List.mem_filter.1 hx
    rcases hskip _ (mem_take_withPos hx1) with h | h
    · simp [h] at hx2
    · simp [h]
  rw [hpre, List.nil_append]

/-- no content outside the active range: clipping to it removes nothing -/
theorem rangeSpec_of_withinActive {emp : π → Bool} {cfg : Cfg} {f : Fib Int π} (hin : withinActive emp cfg f = true) :
    rangeSpec (fun ip : Nat × π => emp ip.2) (some (getActive cfg f).1) (some (getActive cfg f).2) (withPos f) =
      (withPos f).filter (fun x => !emp x.2.2) := by
  refine List.filter_congr fun x hx => ?_
  have : (emp x.2.2 || inIv (some ((getActive cfg f).1, (getActive cfg f).2)) x.1) = true :=
    List.all_eq_true.1 hin _ (mem_of_mem_withPos hx)
  rw [inSlice_bounds]
  revert this
  cases emp x.2.2 with
  | true => intro _; rfl
  | false => exact id

end proj

section mat
variable {ν : Type} [DecidableEq ν]

theorem popSpec_nil_of_keep {π β : Type} (mk : π) (rm : Bool → π → Bool) (body : Int → π → β → π)
    (b : Fib Int β) (h : ∀ e ∈ b, rm true (body e.1 mk e.2) = false) :
    popSpec mk rm body ([] : Fib Int π) b = b.map (fun e => (e.1, body e.1 mk e.2)) := by
  induction b with
  | nil => rw [popSpec]; rfl
  | cons e rb ih =>
    rw [popSpec, ih fun x hx => h x (List.mem_cons_of_mem _ hx)]
    unfold popKeep
    rw [h _ (List.mem_cons_self ..)]
    rfl

/-- the copy of a non-empty (sub-)tree is never removed again -/
theorem rmOf_nonEmpty (dflt : ν) (d : Nat) (t : Tree Int ν d) (h : isEmpty dflt d t = false) :
    rmOf dflt d true (nonEmpty dflt d t) = false := by
  cases d with
  | zero => exact h
  | succ d =>
    obtain ⟨x, hx, hxe⟩ := List.all_eq_false.1
      (show (show List (Int × Tree Int ν d) from t).all (fun e => isEmpty dflt d e.2) = false from h)
    -- the non-empty element `x` is presented, so the copy has an element
    have hm : (x.1, nonEmpty dflt d x.2) ∈ (show List (Int × Tree Int ν d) from nonEmpty dflt (d + 1) t) :=
      List.mem_map.2 ⟨x, List.mem_filter.2 ⟨hx, (Bool.not_eq_true' _).mpr ((Bool.not_eq_true _).mp hxe)⟩, rfl⟩
    show (true && List.isEmpty (show List (Int × Tree Int ν d) from nonEmpty dflt (d + 1) t)) = false
    generalize (show List (Int × Tree Int ν d) from nonEmpty dflt (d + 1) t) = l at hm ⊢
    cases l with
    | nil => cases hm
    | cons _ _ => rfl

theorem fromLazy_eq_nonEmpty (dflt : ν) (d : Nat) (ys : Fib Int (Tree Int ν d)) (hs : Sorted ys) :
    fromLazy dflt d ys = nonEmpty dflt (d + 1) (show Tree Int ν (d + 1) from ys) := by
  unfold fromLazy populate
  show (popLoop _ _ _ ([] : Fib Int (Tree Int ν d)) 0 _).1 = _
  rw [populate_eq_spec _ _ _ _ _ sorted_nil (hs.filter _), popSpec_nil_of_keep]
  · rfl
  · intro e he
    exact rmOf_nonEmpty dflt d e.2 ((Bool.not_eq_true' _).mp (List.mem_filter.1 he).2)

end mat
end Ft.C07
