/-
  C06 helper lemmas: uniform tiling of an index variable re-indexes the dense sum.

  Variable `v` is split into the upper half `v1` (a fresh loop variable) and the lower half, which
  keeps the number `v` (the lower coordinates are the original coordinates).  A tiled operand has
  value `A[.., x, ..]` at `(.., x1, x, ..)` when `x1 = x / step * step` and 0 elsewhere (`Tiled`).
-/
import FtProofs.Lemmas.KernelRun
namespace Ft.C06
open Ft StrictTotal

/-- `c'` is `c` tiled on variable `v` with upper half `v1` -/
def Tiled (step : Int) (v v1 : Nat) (c c' : Cur Int) : Prop :=
  ∀ σ, cval c' σ = if σ v1 = tileOf step (σ v) then cval c σ else 0

/-- operand by operand: tiled, or the same tensor -/
def TiledOps (step : Int) (v v1 : Nat) : List (Cur Int) → List (Cur Int) → Prop
  | [], [] => True
  | c :: cs, c' :: cs' => (Tiled step v v1 c c' ∨ SameTensor c c') ∧ TiledOps step v v1 cs cs'
  | _, _ => False

/-- at least one operand is tiled: without it no factor vanishes off the tile, and the sum over the
    upper variable would count every term once per upper coordinate -/
def AnyTiled (step : Int) (v v1 : Nat) : List (Cur Int) → List (Cur Int) → Prop
  | c :: cs, c' :: cs' => Tiled step v v1 c c' ∨ AnyTiled step v v1 cs cs'
  | _, _ => False

theorem prodVal_tiled_pos (step : Int) (v v1 : Nat) (ops ops' : List (Cur Int))
    (h : TiledOps step v v1 ops ops') (σ : Nat → Int) (hσ : σ v1 = tileOf step (σ v)) :
    prodVal ops' σ = prodVal ops σ := by
  induction ops generalizing ops' with
  | nil => cases ops' with
    | nil => rfl
    | cons _ _ => exact h.elim
  | cons c cs ih =>
    cases ops' with
    | nil => exact h.elim
    | cons c' cs' =>
      have ih := ih cs' h.2
      unfold prodVal at *
      simp only [List.map_cons, prodL]
      rw [ih]
      rcases h.1 with ht | hs
      · rw [ht σ, if_pos hσ]
      · rw [hs σ]

theorem prodVal_tiled_neg (step : Int) (v v1 : Nat) (ops ops' : List (Cur Int))
    (h : AnyTiled step v v1 ops ops') (σ : Nat → Int) (hσ : σ v1 ≠ tileOf step (σ v)) :
    prodVal ops' σ = 0 := by
  induction ops generalizing ops' with
  | nil => exact h.elim
  | cons c cs ih =>
    cases ops' with
    | nil => exact h.elim
    | cons c' cs' =>
      unfold prodVal
      simp only [List.map_cons, prodL]
      rcases h with ht | hr
      · rw [ht σ, if_neg hσ]; simp
      · have := ih cs' hr
        unfold prodVal at this
        rw [this]; simp

theorem prodVal_tiled (step : Int) (v v1 : Nat) (ops ops' : List (Cur Int))
    (h1 : TiledOps step v v1 ops ops') (h2 : AnyTiled step v v1 ops ops') (σ : Nat → Int) :
    prodVal ops' σ = if σ v1 = tileOf step (σ v) then prodVal ops σ else 0 := by
  by_cases h : σ v1 = tileOf step (σ v)
  · rw [if_pos h]; exact prodVal_tiled_pos step v v1 ops ops' h1 σ h
  · rw [if_neg h]; exact prodVal_tiled_neg step v v1 ops ops' h2 σ h

/-- the tiled output point is matched iff the original one is and, where the tiled variable is an
    output variable, the upper coordinate is the one asked for -/
theorem tiled_cond {zr zr' : List Nat} {v v1 : Nat} (hzr' : ∀ w, w ∈ zr' ↔ (w ∈ zr ∨ (w = v1 ∧ v ∈ zr)))
    (hv1zr : v1 ∉ zr) (σ τ : Nat → Int) (x : Int) :
    (zr'.map (upd σ v1 x) = zr'.map τ) ↔ ((v ∈ zr → x = τ v1) ∧ zr.map σ = zr.map τ) := by
  rw [List.map_inj_left, List.map_inj_left]
  constructor
  · intro h
    refine ⟨fun hvz => ?_, fun w hw => ?_⟩
    · have := h v1 ((hzr' v1).2 (Or.inr ⟨rfl, hvz⟩))
      rwa [upd_same] at this
    · have := h w ((hzr' w).2 (Or.inl hw))
      rwa [upd_ne _ _ (fun (e : w = v1) => hv1zr (e ▸ hw))] at this
  · rintro ⟨ha, hb⟩ w hw
    rcases (hzr' w).1 hw with hw | ⟨rfl, hvz⟩
    · rw [upd_ne _ _ (fun (e : w = v1) => hv1zr (e ▸ hw))]; exact hb w hw
    · rw [upd_same]; exact ha hvz

/-- the sum over the upper coordinate, for an assignment of the original variables: of the upper
    coordinates only the tile of the lower one contributes.  `hzr'` says which ranks the tiled output
    has (those of `zr`, and `v1` iff `v` is among them); `hv1zr` and `hops1` say that `v1` is fresh
    (not an output rank, in no original operand); `h1`, `h2` relate the operands (`TiledOps`, `AnyTiled`). -/
theorem tiled_inner_sum (step : Int) (U : List Int) (hU : Asc U) (htile : ∀ x ∈ U, tileOf step x ∈ U)
    {v v1 : Nat} (hvv1 : v ≠ v1) {ops ops' : List (Cur Int)} {zr zr' : List Nat} (hv1zr : v1 ∉ zr)
    (hzr' : ∀ w, w ∈ zr' ↔ (w ∈ zr ∨ (w = v1 ∧ v ∈ zr))) (hops1 : ∀ c ∈ ops, v1 ∉ c.ranks)
    (h1 : TiledOps step v v1 ops ops') (h2 : AnyTiled step v v1 ops ops') (τ σ : Nat → Int) (hσv : σ v ∈ U) :
    (U.map (fun x => if zr'.map (upd σ v1 x) = zr'.map τ then prodVal ops' (upd σ v1 x) else 0)).sum =
      if (v ∈ zr → τ v1 = tileOf step (τ v)) then (if zr.map σ = zr.map τ then prodVal ops σ else 0) else 0 := by
  have hterm : ∀ x, (if zr'.map (upd σ v1 x) = zr'.map τ then prodVal ops' (upd σ v1 x) else 0) =
      if ((v ∈ zr → x = τ v1) ∧ zr.map σ = zr.map τ) ∧ x = tileOf step (σ v) then prodVal ops σ else 0 := by
    intro x
    rw [prodVal_tiled step v v1 ops ops' h1 h2, upd_same, upd_ne _ _ hvv1,
      prodVal_upd_irrelevant ops σ v1 x hops1]
    have hcond := tiled_cond hzr' hv1zr σ τ x
    by_cases hc : zr'.map (upd σ v1 x) = zr'.map τ
    · rw [if_pos hc]
      by_cases hx : x = tileOf step (σ v)
      · rw [if_pos hx, if_pos ⟨hcond.1 hc, hx⟩]
      · rw [if_neg hx, if_neg (fun h => hx h.2)]
    · rw [if_neg hc, if_neg (fun h => hc (hcond.2 h.1))]
  rw [sum_map_congr _ _ _ (fun x _ => hterm x),
    sum_single _ U hU (tileOf step (σ v)) (htile _ hσv) (fun x _ hx => if_neg (fun h => hx h.2))]
  by_cases hz : zr.map σ = zr.map τ
  · have hστ : v ∈ zr → σ v = τ v := fun hvz => List.map_inj_left.1 hz v hvz
    rw [if_pos hz]
    -- at the tile of `σ v` the selecting condition is the stated condition on `τ`, as `σ v = τ v`
    have hiff : (((v ∈ zr → tileOf step (σ v) = τ v1) ∧ zr.map σ = zr.map τ) ∧
        tileOf step (σ v) = tileOf step (σ v)) ↔ (v ∈ zr → τ v1 = tileOf step (τ v)) := by
      constructor
      · rintro ⟨⟨ha, _⟩, _⟩ hvz
        rw [← ha hvz, hστ hvz]
      · exact fun h => ⟨⟨fun hvz => by rw [h hvz, hστ hvz], hz⟩, rfl⟩
    exact ite_congr (propext hiff) (fun _ => rfl) (fun _ => rfl)
  · rw [if_neg hz, if_neg (fun h => hz h.1.2)]
    simp

/-- **tiling re-indexes the dense sum.**  `order'` is any permutation of the loop variables with the
    new upper variable `v1`; the output ranks `zr'` are those of `zr`, plus `v1` if the tiled variable
    is an output variable.  Then the tiled dense result at the tiled point is the original dense
    result at the original point (and 0 at points whose upper coordinate is not the tile of the lower). -/
theorem einsum_tiled (step : Int) (U : List Int) (hU : Asc U) (htile : ∀ x ∈ U, tileOf step x ∈ U)
    (v v1 : Nat) (order order' : List Nat) (ops ops' : List (Cur Int)) (zr zr' : List Nat)
    (hv : v ∈ order) (hv1 : v1 ∉ order) (hperm : order'.Perm (v1 :: order))
    (hzsub : ∀ w ∈ zr, w ∈ order)
    (hzr' : ∀ w, w ∈ zr' ↔ (w ∈ zr ∨ (w = v1 ∧ v ∈ zr)))
    (hops1 : ∀ c ∈ ops, v1 ∉ c.ranks)
    (h1 : TiledOps step v v1 ops ops') (h2 : AnyTiled step v v1 ops ops')
    (τ σ0 : Nat → Int) :
    einsum U order' ops' (fun σ => zr'.map σ) (zr'.map τ) σ0 =
      if (v ∈ zr → τ v1 = tileOf step (τ v)) then einsum U order ops (fun σ => zr.map σ) (zr.map τ) σ0 else 0 := by
  have inner := tiled_inner_sum step U hU htile (fun (e : v = v1) => hv1 (e ▸ hv)) (fun h => hv1 (hzsub v1 h))
    hzr' hops1 h1 h2 τ
  unfold einsum
  -- the new variable summed innermost
  rw [esum_perm U (hperm.trans (List.perm_append_singleton v1 order).symm), esum_append_single]
  by_cases hcond : (v ∈ zr → τ v1 = tileOf step (τ v))
  · rw [if_pos hcond]
    apply esum_congr
    intro σ hσ _
    rw [inner σ (hσ v hv), if_pos hcond]
  · rw [if_neg hcond]
    apply esum_eq_zero
    intro σ hσ _
    rw [inner σ (hσ v hv), if_neg hcond]

end Ft.C06
