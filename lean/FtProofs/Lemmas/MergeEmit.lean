/-
  C19, latency "N": the insertion-buffer merge emits every coordinate of its lists exactly
  once (`specHeads_content`, `specDrain_emits`: what is still to be emitted is kept up to
  permutation and the drain does not stop early).
-/
import FtProofs.Lemmas.MergeInf
namespace Ft
open List

/-- what is still to be emitted -/
def toEmit (lists : List (List Int)) (buf : List (Int × Nat)) : List Int :=
  buf.map (·.1) ++ lists.flatten

theorem bufInsert_perm (buf : List (Int × Nat)) (e : Int × Nat) : bufInsert buf e ~ e :: buf := by
  unfold bufInsert
  exact perm_middle.trans ((filter_append_perm _ buf).cons e)

theorem mem_bufInsert {buf : List (Int × Nat)} {e x : Int × Nat} :
    x ∈ bufInsert buf e ↔ x = e ∨ x ∈ buf := by
  rw [(bufInsert_perm buf e).mem_iff, mem_cons]

theorem toEmit_cons (l : List Int) (ls : List (List Int)) (buf : List (Int × Nat)) :
    toEmit (l :: ls) buf ~ l ++ toEmit ls buf := by
  unfold toEmit
  rw [flatten_cons, ← append_assoc, ← append_assoc]
  exact Perm.append_right _ perm_append_comm

theorem toEmit_bufInsert (ls : List (List Int)) (buf : List (Int × Nat)) (e : Int × Nat) :
    toEmit ls (bufInsert buf e) ~ e.1 :: toEmit ls buf := by
  unfold toEmit
  exact Perm.append_right ls.flatten ((bufInsert_perm buf e).map (·.1))

theorem flatten_set_perm (lists : List (List Int)) :
    ∀ (i : Nat) (c : Int) (l : List Int), lists.getD i [] = c :: l →
      lists.flatten ~ c :: (lists.set i l).flatten := by
  induction lists with
  | nil => intro i c l h; simp at h
  | cons x r ih =>
    intro i c l h
    cases i with
    | zero =>
      have hx : x = c :: l := by simpa using h
      subst hx
      simp
    | succ i =>
      have hr : r.getD i [] = c :: l := by simpa using h
      have := ih i c l hr
      simp only [set_cons_succ, flatten_cons]
      exact (Perm.append_left x this).trans perm_middle

theorem toEmit_set (lists : List (List Int)) (buf : List (Int × Nat)) (i : Nat) (c : Int) (l : List Int)
    (h : lists.getD i [] = c :: l) : toEmit lists buf ~ c :: toEmit (lists.set i l) buf :=
  (Perm.append_left _ (flatten_set_perm lists i c l h)).trans perm_middle

theorem getD_set_self (lists : List (List Int)) (i : Nat) (l : List Int) (h : lists.getD i [] ≠ []) :
    (lists.set i l).getD i [] = l := by
  have hi : i < lists.length := by
    apply Classical.byContradiction
    intro hn
    apply h
    simp [getD_eq_getElem?_getD, getElem?_eq_none (by omega : lists.length ≤ i)]
  simp [getD_eq_getElem?_getD, getElem?_set_self hi]

theorem getD_set_ne (lists : List (List Int)) (i j : Nat) (l : List Int) (h : i ≠ j) :
    (lists.set i l).getD j [] = lists.getD j [] := by
  simp [getD_eq_getElem?_getD, getElem?_set_ne h]

/-- every list that still holds coordinates has its head in the buffer -/
def Tracked (off : Nat) (lists : List (List Int)) (buf : List (Int × Nat)) : Prop :=
  ∀ k, lists.getD k [] ≠ [] → ∃ c, (c, k + off) ∈ buf

theorem flatten_nil_of_all_nil (lists : List (List Int)) (h : ∀ k, lists.getD k [] = []) :
    lists.flatten = [] := by
  induction lists with
  | nil => rfl
  | cons x r ih =>
    have hx : x = [] := by simpa using h 0
    have hr : ∀ k, r.getD k [] = [] := fun k => by simpa using h (k + 1)
    simp [hx, ih hr]

theorem specDrain_emits (fuel : Nat) :
    ∀ (lists : List (List Int)) (buf : List (Int × Nat)) (out : List Int) (cost : Nat),
      Tracked 0 lists buf → (toEmit lists buf).length ≤ fuel →
      (specDrain fuel lists buf out cost).2 ~ out ++ toEmit lists buf := by
  induction fuel with
  | zero =>
    intro lists buf out cost _ hf
    have : toEmit lists buf = [] := length_eq_zero_iff.1 (by omega)
    simp [specDrain, this]
  | succ fuel ih =>
    intro lists buf out cost ht hf
    cases buf with
    | nil =>
      have hall : ∀ k, lists.getD k [] = [] := fun k =>
        Classical.byContradiction fun hne => by obtain ⟨c, hc⟩ := ht k hne; cases hc
      simp [specDrain, toEmit, flatten_nil_of_all_nil lists hall]
    | cons x b =>
      obtain ⟨c, i⟩ := x
      simp only [specDrain]
      cases hl : lists.getD i [] with
      | nil =>
        have ht' : Tracked 0 lists b := fun k hk => by
          obtain ⟨c', hc'⟩ := ht k hk
          rcases mem_cons.1 hc' with he | hc'
          · obtain ⟨_, rfl⟩ := Prod.mk.inj he
            exact absurd hl hk
          · exact ⟨c', hc'⟩
        refine (ih lists b (out ++ [c]) cost ht' (Nat.le_of_succ_le_succ hf)).trans ?_
        rw [append_assoc]
        exact Perm.refl _
      | cons c' l =>
        have ht' : Tracked 0 (lists.set i l) (bufInsert b (c', i)) := fun k hk => by
          by_cases hki : k = i
          · exact ⟨c', mem_bufInsert.2 (Or.inl (by rw [hki]; rfl))⟩
          · rw [getD_set_ne lists i k l (fun h => hki h.symm)] at hk
            obtain ⟨c'', hc''⟩ := ht k hk
            rcases mem_cons.1 hc'' with he | hc''
            · exact absurd (Prod.mk.inj he).2 hki
            · exact ⟨c'', mem_bufInsert.2 (Or.inr hc'')⟩
        have hperm : toEmit lists b ~ toEmit (lists.set i l) (bufInsert b (c', i)) :=
          (toEmit_set lists b i c' l hl).trans (toEmit_bufInsert _ b (c', i)).symm
        have hf' : (toEmit (lists.set i l) (bufInsert b (c', i))).length ≤ fuel := by
          rw [← hperm.length_eq]; exact Nat.le_of_succ_le_succ hf
        refine (ih _ _ (out ++ [c]) _ ht' hf').trans ?_
        rw [append_assoc]
        exact Perm.append_left out (hperm.symm.cons c)

theorem Tracked.cons {i : Nat} {ls : List (List Int)} {buf : List (Int × Nat)} (l : List Int)
    (h0 : l ≠ [] → ∃ c, (c, i) ∈ buf) (h : Tracked (i + 1) ls buf) : Tracked i (l :: ls) buf := by
  intro k hk
  cases k with
  | zero =>
    obtain ⟨c, hc⟩ := h0 hk
    exact ⟨c, by rw [Nat.zero_add]; exact hc⟩
  | succ k =>
    obtain ⟨c, hc⟩ := h k hk
    exact ⟨c, by rw [Nat.add_right_comm]; exact hc⟩

theorem specHeads_content (lists : List (List Int)) :
    ∀ (i : Nat) (buf : List (Int × Nat)) (cost : Nat),
      toEmit (specHeads i lists buf cost).1 (specHeads i lists buf cost).2.1 ~ toEmit lists buf ∧
      (∀ x ∈ buf, x ∈ (specHeads i lists buf cost).2.1) ∧
      Tracked i (specHeads i lists buf cost).1 (specHeads i lists buf cost).2.1 := by
  induction lists with
  | nil =>
    intro i buf cost
    exact ⟨Perm.refl _, fun x hx => hx, fun k hk => absurd rfl hk⟩
  | cons x ls ih =>
    intro i buf cost
    cases x with
    | nil =>
      obtain ⟨h1, h2, h3⟩ := ih (i + 1) buf cost
      exact ⟨h1, h2, h3.cons [] (fun h => absurd rfl h)⟩
    | cons c l =>
      obtain ⟨h1, h2, h3⟩ := ih (i + 1) (bufInsert buf (c, i)) (cost + bufCost buf (c, i))
      refine ⟨?_, fun y hy => h2 y (mem_bufInsert.2 (Or.inr hy)),
        h3.cons l (fun _ => ⟨c, h2 (c, i) (mem_bufInsert.2 (Or.inl rfl))⟩)⟩
      exact (toEmit_cons l _ _).trans <| (Perm.append_left l (h1.trans (toEmit_bufInsert ls buf (c, i)))).trans <|
        perm_middle.trans (toEmit_cons (c :: l) ls buf).symm

end Ft
