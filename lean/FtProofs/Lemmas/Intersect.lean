/-
  Helper lemmas for C19 (intersection cost models): points of the emitted rows; the shape the
  two-finger and skip-ahead loops share (`FiberLoop`) and, for any such loop, one fiber, a group
  of fibers in one call, successive calls; the leader-follower count.
-/
import FtModel.Intersect
import FtProofs.Lemmas.ListFacts
namespace Ft

theorem c19_lexLt_snoc (pre : List Int) (a b : Int) :
    c19_lexLt (pre ++ [a]) (pre ++ [b]) = decide (a < b) := by
  induction pre with
  | nil =>
    simp only [List.nil_append, c19_lexLt]
    by_cases h : a < b
    · simp [h]
    · by_cases h2 : a = b <;> simp [h, h2]
  | cons x xs ih =>
    simp only [List.cons_append, c19_lexLt, Int.lt_irrefl, if_false, if_true, ih]

theorem snoc_isEmpty (pre : List Int) (a : Int) : (pre ++ [a]).isEmpty = false := by
  cases pre <;> rfl

/-- the points `pre ++ [c]` of a list of used coordinates -/
def P (pre : List Int) (cs : List Int) : List c19_Pt := cs.map (fun c => pre ++ [c])

@[simp] theorem P_nil (pre : List Int) : P pre [] = [] := rfl
@[simp] theorem P_cons (pre : List Int) (c : Int) (cs : List Int) :
    P pre (c :: cs) = (pre ++ [c]) :: P pre cs := rfl

/-- `R` does not continue the fiber `pre` -/
def Foreign (pre : List Int) (R : List c19_Pt) : Prop := endOf pre R = true

theorem foreign_nil (pre : List Int) : Foreign pre [] := rfl

theorem endOf_P_cons (pre : List Int) (c : Int) (cs : List Int) (R : List c19_Pt) :
    endOf pre (P pre (c :: cs) ++ R) = false := by
  simp [endOf, P]

theorem fiberOf_P_cons (pre : List Int) (c : Int) (cs : List Int) (R : List c19_Pt) :
    fiberOf (P pre (c :: cs) ++ R) = some pre := by
  simp [fiberOf, P, snoc_isEmpty]

theorem fiberOf_foreign {pre : List Int} {R : List c19_Pt} (h : Foreign pre R) :
    fiberOf R ≠ some pre := by
  cases R with
  | nil => simp [fiberOf]
  | cons q r =>
    simp only [fiberOf]
    split
    · simp
    · intro heq
      simp only [Foreign, endOf, decide_eq_true_eq] at h
      exact h (Option.some.inj heq).symm

-- Unfolding a catch-all case of these recursions leaves the side condition that the two
-- arguments are not both a `cons`: `∀ a ra b rb, l₀ = a :: ra → l₁ = b :: rb → False`.
theorem mergeLabels_nil_left (b : List Int) : mergeLabels ([] : List Int) b = [] := by
  rw [mergeLabels]; exact fun _ _ _ _ h => nomatch h
theorem mergeLabels_nil_right (a : List Int) : mergeLabels a ([] : List Int) = [] := by
  rw [mergeLabels]; exact fun _ _ _ _ _ h => nomatch h

theorem mergeLabels_cons_cons (a b : Int) (ra rb : List Int) :
    mergeLabels (a :: ra) (b :: rb) =
      if a = b then Lab.M :: mergeLabels ra rb
      else if a < b then Lab.L :: mergeLabels ra (b :: rb)
      else Lab.R :: mergeLabels (a :: ra) rb := by
  rw [mergeLabels]

def andPts : List Int → List Int → List Int × List Int
  | [], [] => ([], [])
  | a :: _, [] => ([a], [])
  | [], b :: _ => ([], [b])
  | a :: ra, b :: rb =>
    if a = b then (a :: (andPts ra rb).1, b :: (andPts ra rb).2)
    else if a < b then (a :: (andPts ra (b :: rb)).1, (andPts ra (b :: rb)).2)
    else ((andPts (a :: ra) rb).1, b :: (andPts (a :: ra) rb).2)
termination_by a b => a.length + b.length
decreasing_by all_goals (simp only [List.length_cons]; omega)

theorem andUses_nil_nil (s : Nat) : andUses s [] [] = ([], []) := by rw [andUses]
theorem andUses_cons_nil (s : Nat) (a : Int) (ra : List Int) : andUses s (a :: ra) [] = ([(s, a)], []) := by
  rw [andUses]
theorem andUses_nil_cons (s : Nat) (b : Int) (rb : List Int) : andUses s [] (b :: rb) = ([], [(s, b)]) := by
  rw [andUses]
theorem andUses_cons_cons (s : Nat) (a : Int) (ra : List Int) (b : Int) (rb : List Int) :
    andUses s (a :: ra) (b :: rb) =
      if a = b then ((s, a) :: (andUses (s + 1) ra rb).1, (s, b) :: (andUses (s + 1) ra rb).2)
      else if a < b then ((s, a) :: (andUses (s + 1) ra (b :: rb)).1, (andUses (s + 1) ra (b :: rb)).2)
      else ((andUses (s + 1) (a :: ra) rb).1, (s, b) :: (andUses (s + 1) (a :: ra) rb).2) := by
  rw [andUses]

theorem andUses_coords (s : Nat) (a b : List Int) :
    (andUses s a b).1.map (·.2) = (andPts a b).1 ∧ (andUses s a b).2.map (·.2) = (andPts a b).2 := by
  fun_induction andUses s a b with
  | case1 s => simp [andPts]
  | case2 s a ra => simp [andPts]
  | case3 s b rb => simp [andPts]
  | case4 s ra a rb r ih =>
    simp only [List.map_cons]
    rw [andPts]; simp only [if_true]
    exact ⟨by rw [ih.1], by rw [ih.2]⟩
  | case5 s a ra b rb h1 h2 r ih =>
    rw [andPts]; simp only [h1, h2, if_true, if_false, List.map_cons]
    exact ⟨by rw [ih.1], ih.2⟩
  | case6 s a ra b rb h1 h2 r ih =>
    rw [andPts]; simp only [h1, h2, if_false, List.map_cons]
    exact ⟨ih.1, by rw [ih.2]⟩

theorem andPts_fst_cons (a : Int) (ra b : List Int) : ∃ t, (andPts (a :: ra) b).1 = a :: t := by
  induction b with
  | nil => exact ⟨[], by simp [andPts]⟩
  | cons b rb ih =>
    rw [andPts]
    by_cases h1 : a = b
    · simp [h1]
    · by_cases h2 : a < b
      · simp [h1, h2]
      · simp only [h1, h2, if_false]; exact ih

theorem andPts_snd_cons (a : List Int) (b : Int) (rb : List Int) : ∃ t, (andPts a (b :: rb)).2 = b :: t := by
  induction a with
  | nil => exact ⟨[], by simp [andPts]⟩
  | cons a ra ih =>
    rw [andPts]
    by_cases h1 : a = b
    · simp [h1]
    · by_cases h2 : a < b
      · simp only [h1, h2, if_false, if_true]; exact ih
      · simp [h1, h2]

theorem andPts_nil_left (b : List Int) : (andPts [] b).1 = [] := by
  cases b <;> simp [andPts]

theorem andPts_nil_right (a : List Int) : (andPts a []).2 = [] := by
  cases a <;> simp [andPts]

/-- the uses stop where the merge stops (plus one trailing use): they merge like the operands -/
theorem mergeLabels_andPts (a b : List Int) :
    mergeLabels (andPts a b).1 (andPts a b).2 = mergeLabels a b := by
  fun_induction andPts a b with
  | case1 => rfl
  | case2 a ra => rw [mergeLabels_nil_right, mergeLabels_nil_right]
  | case3 b rb => rw [mergeLabels_nil_left, mergeLabels_nil_left]
  | case4 ta x tb ih => simp only [mergeLabels_cons_cons, if_true, ih]
  | case5 a ra b rb hne hlt ih =>
    obtain ⟨t, ht⟩ := andPts_snd_cons ra b rb
    rw [ht] at ih ⊢
    simp only [mergeLabels_cons_cons, hne, hlt, if_true, if_false, ih]
  | case6 a ra b rb hne hlt ih =>
    obtain ⟨t, ht⟩ := andPts_fst_cons a ra rb
    rw [ht] at ih ⊢
    simp only [mergeLabels_cons_cons, hne, hlt, if_false, ih]

theorem c19_lexLt_irrefl (x : List Int) : c19_lexLt x x = false := by
  induction x with
  | nil => rfl
  | cons a r ih => simp [c19_lexLt, ih]

theorem c19_lexLt_nil_right (x : List Int) : c19_lexLt x [] = false := by
  cases x <;> rfl

theorem c19_lexLt_asymm : ∀ (x y : List Int), c19_lexLt x y = true → c19_lexLt y x = false := by
  intro x
  induction x with
  | nil => intro y _; exact c19_lexLt_nil_right y
  | cons a r ih =>
    intro y h
    cases y with
    | nil => simp [c19_lexLt] at h
    | cons b s =>
      simp only [c19_lexLt] at h ⊢
      by_cases h1 : a < b
      · have : ¬ b < a := by omega
        have h2 : ¬ b = a := by omega
        simp [this, h2]
      · by_cases h2 : a = b
        · subst h2
          simp only [Int.lt_irrefl, if_false, if_true] at h ⊢
          exact ih s h
        · simp [h1, h2] at h

/-- all of `R` lies in fibers behind `pre` -/
def Later (pre : List Int) (R : List c19_Pt) : Prop := ∀ q ∈ R, c19_lexLt pre q.dropLast = true

theorem later_nil (pre : List Int) : Later pre [] := by intro q h; cases h

theorem Later.tail {pre : List Int} {q : c19_Pt} {R : List c19_Pt} (h : Later pre (q :: R)) : Later pre R :=
  fun x hx => h x (List.mem_cons_of_mem _ hx)

theorem Later.head_ne {pre : List Int} {q : c19_Pt} {R : List c19_Pt} (h : Later pre (q :: R)) :
    q.isEmpty = false ∧ c19_lexLt pre q.dropLast = true ∧ c19_lexLt q.dropLast pre = false ∧ pre ≠ q.dropLast := by
  have h1 := h q (List.mem_cons_self ..)
  refine ⟨?_, h1, c19_lexLt_asymm _ _ h1, ?_⟩
  · cases q with
    | nil => simp [c19_lexLt_nil_right] at h1
    | cons _ _ => rfl
  · intro he; rw [← he, c19_lexLt_irrefl] at h1; cases h1

theorem Later.foreign {pre : List Int} {R : List c19_Pt} (h : Later pre R) : Foreign pre R := by
  cases R with
  | nil => rfl
  | cons q r => simp [Foreign, endOf, h.head_ne.2.2.2]

/-! ### the shape the two-finger and the skip-ahead loop share

Both walk the two traces fiber by fiber and, inside a fiber, replay the merge of the two
operands; they differ in what a step is charged.  `cost curr lab` is the charge of a step with
label `lab` when the run in progress is `curr` (`curr` as in `SkipAheadIntersector`; the
two-finger loop ignores it), `currAfter lab` is `curr` after that step, `costFrom cost curr l`
the charge of the label sequence `l`. -/

def currAfter : Lab → Option Nat
  | .M => none
  | .L => some 0
  | .R => some 1

def costFrom (cost : Option Nat → Lab → Nat) : Option Nat → List Lab → Nat
  | _, [] => 0
  | c, x :: r => cost c x + costFrom cost (currAfter x) r

structure FiberLoop (L : Option Nat → List c19_Pt → List c19_Pt → Nat)
    (cost : Option Nat → Lab → Nat) : Prop where
  nil_left : ∀ c l, L c [] l = 0
  nil_right : ∀ c l, L c l [] = 0
  /-- a finger that is still in an earlier fiber is moved on without a comparison -/
  behind_left : ∀ c p0 r0 p1 r1, p0.isEmpty = false → p1.isEmpty = false →
    c19_lexLt p0.dropLast p1.dropLast = true → L c (p0 :: r0) (p1 :: r1) = L none r0 (p1 :: r1)
  behind_right : ∀ c p0 r0 p1 r1, p0.isEmpty = false → p1.isEmpty = false →
    c19_lexLt p0.dropLast p1.dropLast = false → c19_lexLt p1.dropLast p0.dropLast = true →
    L c (p0 :: r0) (p1 :: r1) = L none (p0 :: r0) r1
  /-- both fingers in the same fiber: one merge step; the finger that stays is forwarded as
      well when the other one leaves the fiber -/
  step : ∀ c pre x y r0 r1, L c ((pre ++ [x]) :: r0) ((pre ++ [y]) :: r1) =
    if x = y then cost c .M + L none r0 r1
    else if x < y then
      cost c .L + L (if fiberOf r0 ≠ some pre then none else some 0) r0
        (if endOf pre r0 then r1 else (pre ++ [y]) :: r1)
    else
      cost c .R +
        L (if fiberOf (if endOf pre r1 then r0 else (pre ++ [x]) :: r0) ≠ some pre then none else some 1)
          (if endOf pre r1 then r0 else (pre ++ [x]) :: r0) r1

theorem tfLoop_nil_left (l : List c19_Pt) : tfLoop [] l = 0 := by
  rw [tfLoop]; exact fun _ _ _ _ h => nomatch h
theorem tfLoop_nil_right (l : List c19_Pt) : tfLoop l [] = 0 := by
  rw [tfLoop]; exact fun _ _ _ _ _ h => nomatch h

theorem tfLoop_cons_cons (p0 : c19_Pt) (r0 : List c19_Pt) (p1 : c19_Pt) (r1 : List c19_Pt) :
    tfLoop (p0 :: r0) (p1 :: r1) =
      if p0.isEmpty || p1.isEmpty then 0
      else if c19_lexLt p0.dropLast p1.dropLast then tfLoop r0 (p1 :: r1)
      else if c19_lexLt p1.dropLast p0.dropLast then tfLoop (p0 :: r0) r1
      else if p0 = p1 then 1 + tfLoop r0 r1
      else if c19_lexLt p0 p1 then
        if endOf p0.dropLast r0 then 1 + tfLoop r0 r1 else 1 + tfLoop r0 (p1 :: r1)
      else
        if endOf p0.dropLast r1 then 1 + tfLoop r0 r1 else 1 + tfLoop (p0 :: r0) r1 := by
  rw [tfLoop]

theorem tfLoop_fiberLoop : FiberLoop (fun _ => tfLoop) (fun _ _ => 1) where
  nil_left _ := tfLoop_nil_left
  nil_right _ := tfLoop_nil_right
  behind_left _ p0 r0 p1 r1 h0 h1 hlt := by rw [tfLoop_cons_cons, h0, h1, hlt]; rfl
  behind_right _ p0 r0 p1 r1 h0 h1 hlt hgt := by rw [tfLoop_cons_cons, h0, h1, hlt, hgt]; rfl
  step _ pre x y r0 r1 := by
    rw [tfLoop_cons_cons]
    simp only [snoc_isEmpty, List.dropLast_concat, c19_lexLt_irrefl, List.append_right_inj,
      List.cons.injEq, and_true, c19_lexLt_snoc, Bool.or_self, Bool.false_eq_true, if_false,
      decide_eq_true_eq]
    cases endOf pre r0 <;> cases endOf pre r1 <;> rfl

theorem costFrom_one (c : Option Nat) (l : List Lab) : costFrom (fun _ _ => 1) c l = l.length := by
  induction l generalizing c with
  | nil => rfl
  | cons x r ih => rw [costFrom, ih, List.length_cons, Nat.add_comm]

/-- the charge of a skip-ahead step: a match, or the first step of a run on one side -/
def saCost : Option Nat → Lab → Nat
  | _, .M => 1
  | c, .L => if c ≠ some 0 then 1 else 0
  | c, .R => if c ≠ some 1 then 1 else 0

theorem saLoop_nil_left (c : Option Nat) (l : List c19_Pt) : saLoop c [] l = 0 := by
  rw [saLoop]; exact fun _ _ _ _ h => nomatch h
theorem saLoop_nil_right (c : Option Nat) (l : List c19_Pt) : saLoop c l [] = 0 := by
  rw [saLoop]; exact fun _ _ _ _ _ h => nomatch h

theorem saLoop_cons_cons (curr : Option Nat) (p0 : c19_Pt) (r0 : List c19_Pt) (p1 : c19_Pt)
    (r1 : List c19_Pt) :
    saLoop curr (p0 :: r0) (p1 :: r1) =
      if p0.isEmpty || p1.isEmpty then 0
      else if c19_lexLt p0.dropLast p1.dropLast then saLoop none r0 (p1 :: r1)
      else if c19_lexLt p1.dropLast p0.dropLast then saLoop none (p0 :: r0) r1
      else if p0 = p1 then 1 + saLoop none r0 r1
      else if c19_lexLt p0 p1 then
        (if curr ≠ some 0 then 1 else 0) +
          saLoop (if fiberOf r0 ≠ some p0.dropLast then none else some 0) r0
            (if endOf p0.dropLast r0 then r1 else p1 :: r1)
      else
        (if curr ≠ some 1 then 1 else 0) +
          saLoop (if fiberOf (if endOf p0.dropLast r1 then r0 else p0 :: r0) ≠ some p0.dropLast then none
              else some 1)
            (if endOf p0.dropLast r1 then r0 else p0 :: r0) r1 := by
  rw [saLoop]

theorem saLoop_fiberLoop : FiberLoop saLoop saCost where
  nil_left := saLoop_nil_left
  nil_right := saLoop_nil_right
  behind_left c p0 r0 p1 r1 h0 h1 hlt := by rw [saLoop_cons_cons, h0, h1, hlt]; rfl
  behind_right c p0 r0 p1 r1 h0 h1 hlt hgt := by rw [saLoop_cons_cons, h0, h1, hlt, hgt]; rfl
  step c pre x y r0 r1 := by
    rw [saLoop_cons_cons]
    simp only [snoc_isEmpty, List.dropLast_concat, c19_lexLt_irrefl, List.append_right_inj,
      List.cons.injEq, and_true, c19_lexLt_snoc, Bool.or_self, Bool.false_eq_true, if_false,
      decide_eq_true_eq]
    rfl

/-- charging the first step of every run is counting the positions whose predecessor carries
    another label -/
theorem costFrom_saCost (prev : Option Lab) (l : List Lab) :
    costFrom saCost (prev.bind currAfter) l =
      ((prev :: l.map some).zip l).countP (fun px => decide (px.2 ≠ Lab.M) && decide (px.1 ≠ some px.2))
        + l.count Lab.M := by
  induction l generalizing prev with
  | nil => rfl
  | cons x r ih =>
    have hx : saCost (prev.bind currAfter) x =
        (if (decide (x ≠ Lab.M) && decide (prev ≠ some x)) = true then 1 else 0)
          + (if (x == Lab.M) = true then 1 else 0) := by
      cases x <;> rcases prev with _ | (_ | _ | _) <;> rfl
    rw [costFrom, hx, show currAfter x = (some x).bind currAfter from rfl, ih (some x)]
    simp only [List.map_cons, List.zip_cons_cons, List.countP_cons, List.count_cons]
    omega

theorem costFrom_saCost_none (l : List Lab) :
    costFrom saCost none l = sameSideRuns l + l.count Lab.M :=
  costFrom_saCost none l

def FiberIn.pts (f : FiberIn) : List c19_Pt × List c19_Pt :=
  (P f.pre (andPts f.a f.b).1, P f.pre (andPts f.a f.b).2)

def groupPts (g : List FiberIn) : List c19_Pt × List c19_Pt :=
  (g.flatMap (fun f => f.pts.1), g.flatMap (fun f => f.pts.2))

theorem groupPts_cons (f : FiberIn) (g : List FiberIn) :
    groupPts (f :: g) = (f.pts.1 ++ (groupPts g).1, f.pts.2 ++ (groupPts g).2) := by
  simp [groupPts]

theorem later_P_append (pre pre' : List Int) (cs : List Int) (R : List c19_Pt)
    (hlt : c19_lexLt pre pre' = true) (hR : Later pre R) : Later pre (P pre' cs ++ R) := by
  intro q hq
  rcases List.mem_append.1 hq with hq | hq
  · simp only [P, List.mem_map] at hq
    obtain ⟨c, _, rfl⟩ := hq
    rw [List.dropLast_concat]; exact hlt
  · exact hR q hq

theorem later_group (pre : List Int) (g : List FiberIn) (h : ∀ f ∈ g, c19_lexLt pre f.pre = true) :
    Later pre (groupPts g).1 ∧ Later pre (groupPts g).2 := by
  induction g with
  | nil => exact ⟨later_nil _, later_nil _⟩
  | cons f g ih =>
    have hf := h f (List.mem_cons_self ..)
    have ih' := ih (fun x hx => h x (List.mem_cons_of_mem _ hx))
    rw [groupPts_cons]
    exact ⟨later_P_append _ _ _ _ hf ih'.1, later_P_append _ _ _ _ hf ih'.2⟩

theorem ascPre_cons (f : FiberIn) (g : List FiberIn) :
    ascPre (f :: g) = true ↔ (∀ h ∈ g, c19_lexLt f.pre h.pre = true) ∧ ascPre g = true := by
  simp [ascPre, List.all_eq_true]

def costAll (cost : Option Nat → Lab → Nat) (fs : List FiberIn) : Nat :=
  (fs.map (fun f => costFrom cost none (mergeLabels f.a f.b))).sum

theorem costAll_append (cost : Option Nat → Lab → Nat) (g h : List FiberIn) :
    costAll cost (g ++ h) = costAll cost g + costAll cost h := by
  simp [costAll]

theorem costAll_one (fs : List FiberIn) : costAll (fun _ _ => 1) fs = tfSpecAll fs := by
  simp only [costAll, costFrom_one]; rfl

theorem costAll_saCost (fs : List FiberIn) : costAll saCost fs = saSpecAll fs := by
  simp only [costAll, costFrom_saCost_none]; rfl

theorem point_row (n : Nat) (oi pre : List Int) (s c pos : Int)
    (ho : oi.length + 1 = n) (hp : pre.length + 1 = n) :
    TRow.point n (TRow.data (oi ++ [s] ++ pre ++ [c, pos])) = some (pre ++ [c]) := by
  simp only [TRow.point]
  have h1 : (oi ++ [s] ++ pre ++ [c, pos]) = (oi ++ [s]) ++ (pre ++ [c] ++ [pos]) := by simp
  rw [h1, List.drop_left' (by simp [ho]), List.take_left' (by simp [hp])]

theorem mapM_point_mkRows (n : Nat) (oi pre : List Int) (uses : List (Nat × Int))
    (ho : oi.length + 1 = n) (hp : pre.length + 1 = n) :
    (mkRows oi pre uses).mapM (TRow.point n) = some (P pre (uses.map (·.2))) := by
  unfold mkRows
  rw [List.mapM_map]
  rw [mapM_some _ (fun u : (Nat × Int) × Nat => pre ++ [u.1.2])]
  · congr 1
    simp only [P]
    conv => rhs; rw [← List.zipIdx_map_fst 0 uses]
    simp only [List.map_map]
    rfl
  · intro u hu
    exact point_row n oi pre _ _ _ ho hp

/-- every fiber of the group has rows of `n` loop ranks -/
def ShapeOk (n : Nat) (g : List FiberIn) : Prop := ∀ f ∈ g, f.oi.length + 1 = n ∧ f.pre.length + 1 = n

theorem group_rows_points (n : Nat) (g : List FiberIn) (h : ShapeOk n g) :
    (groupRows g).1.mapM (TRow.point n) = some (groupPts g).1 ∧
    (groupRows g).2.mapM (TRow.point n) = some (groupPts g).2 := by
  induction g with
  | nil => exact ⟨rfl, rfl⟩
  | cons f g ih =>
    obtain ⟨ho, hp⟩ := h f (List.mem_cons_self ..)
    have ih' := ih (fun x hx => h x (List.mem_cons_of_mem _ hx))
    have hf := andUses_coords 0 f.a f.b
    simp only [groupRows, groupPts, List.flatMap_cons, FiberIn.rows, FiberIn.pts, ← hf.1, ← hf.2] at ih' ⊢
    exact ⟨mapM_append_some _ _ _ _ _ (mapM_point_mkRows n _ _ _ ho hp) ih'.1,
      mapM_append_some _ _ _ _ _ (mapM_point_mkRows n _ _ _ ho hp) ih'.2⟩

/-- `tfAdd` / `saAdd` with the loop left open -/
def addWith (loop : List c19_Pt → List c19_Pt → Nat) (s : IState) (t0 t1 : List TRow) : Option IState := do
  let (s, t0, t1) :=
    match s.started, t0 with
    | false, h :: r => ({ s with started := true, numRanks := (h.len - 1) / 2 }, r, t1.drop 1)
    | _, _ => (s, t0, t1)
  match ← startPts s.numRanks t0 t1 with
  | none => pure s
  | some (q0, q1) => pure { s with count := s.count + loop q0 q1 }

theorem tfAdd_eq : tfAdd = addWith tfLoop := rfl
theorem saAdd_eq : saAdd = addWith (saLoop none) := rfl

theorem tfAdd_nil (s : IState) : tfAdd s [] [] = some s := by
  unfold tfAdd; cases s.started <;> rfl
theorem saAdd_nil (s : IState) : saAdd s [] [] = some s := by
  unfold saAdd; cases s.started <;> rfl

/-- a call on a started object with rows whose points are `q0`, `q1` (an early `return`
    leaves the count as a loop over an empty trace does) -/
theorem addWith_started (loop : List c19_Pt → List c19_Pt → Nat)
    (hl : ∀ l, loop [] l = 0) (hr : ∀ l, loop l [] = 0) (s : IState) (hs : s.started = true)
    (t0 t1 : List TRow) (q0 q1 : List c19_Pt)
    (h0 : t0.mapM (TRow.point s.numRanks) = some q0) (h1 : t1.mapM (TRow.point s.numRanks) = some q1) :
    addWith loop s t0 t1 = some { s with count := s.count + loop q0 q1 } := by
  obtain ⟨st, nr, ct⟩ := s
  cases hs
  simp only [addWith, startPts, h0, h1, Option.bind_eq_bind, Option.bind_some]
  cases q0 with
  | nil => rw [hl, Int.natCast_zero, Int.add_zero]; rfl
  | cons p0 r0 =>
    cases q1 with
    | nil => rw [hr, Int.natCast_zero, Int.add_zero]; rfl
    | cons p1 r1 => rfl

theorem addWith_header (loop : List c19_Pt → List c19_Pt → Nat) (s : IState) (hs : s.started = false)
    (h x : TRow) (t0 t1 : List TRow) :
    addWith loop s (h :: t0) (x :: t1) =
      addWith loop { s with started := true, numRanks := (h.len - 1) / 2 } t0 t1 := by
  simp only [addWith, hs, List.drop_succ_cons, List.drop_zero]

def GroupsOk (n : Nat) (groups : List (List FiberIn)) : Prop :=
  ∀ g ∈ groups, ShapeOk n g ∧ ascPre g = true

namespace FiberLoop
variable {L : Option Nat → List c19_Pt → List c19_Pt → Nat} {cost : Option Nat → Lab → Nat}
  (h : FiberLoop L cost)
include h

theorem skip_left (c : Option Nat) (pre : List Int) (x : Int) (R0 R1 : List c19_Pt) (h1 : Later pre R1) :
    L c ((pre ++ [x]) :: R0) R1 = L none R0 R1 := by
  cases R1 with
  | nil => rw [h.nil_right, h.nil_right]
  | cons q r =>
    obtain ⟨e1, e2, _, _⟩ := h1.head_ne
    exact h.behind_left c _ R0 q r (snoc_isEmpty pre x) e1 (by rw [List.dropLast_concat]; exact e2)

theorem skip_right (c : Option Nat) (pre : List Int) (y : Int) (R0 R1 : List c19_Pt) (h0 : Later pre R0) :
    L c R0 ((pre ++ [y]) :: R1) = L none R0 R1 := by
  cases R0 with
  | nil => rw [h.nil_left, h.nil_left]
  | cons q r =>
    obtain ⟨e1, e2, e3, _⟩ := h0.head_ne
    exact h.behind_right c q r _ R1 e1 (snoc_isEmpty pre y) (by rw [List.dropLast_concat]; exact e3)
      (by rw [List.dropLast_concat]; exact e2)

theorem skips_left (pre : List Int) (u : List Int) (R0 R1 : List c19_Pt) (c : Option Nat)
    (hc : u = [] → c = none) (h1 : Later pre R1) : L c (P pre u ++ R0) R1 = L none R0 R1 := by
  induction u generalizing c with
  | nil => rw [hc rfl]; rfl
  | cons x u ih =>
    rw [P_cons, List.cons_append, h.skip_left _ _ _ _ _ h1]
    exact ih none (fun _ => rfl)

theorem skips_right (pre : List Int) (v : List Int) (R0 R1 : List c19_Pt) (c : Option Nat)
    (hc : v = [] → c = none) (h0 : Later pre R0) : L c R0 (P pre v ++ R1) = L none R0 R1 := by
  induction v generalizing c with
  | nil => rw [hc rfl]; rfl
  | cons y v ih =>
    rw [P_cons, List.cons_append, h.skip_right _ _ _ _ _ h0]
    exact ih none (fun _ => rfl)

/-- one fiber inside a trace: the loop performs exactly the merge steps of the two coordinate
    lists and continues behind the fiber, whatever the lists are -/
theorem fiber (pre : List Int) (u v : List Int) (R0 R1 : List c19_Pt) (c : Option Nat)
    (h0 : Later pre R0) (h1 : Later pre R1) (hc : u = [] → v = [] → c = none) :
    L c (P pre u ++ R0) (P pre v ++ R1) = costFrom cost c (mergeLabels u v) + L none R0 R1 := by
  fun_induction mergeLabels u v generalizing c with
  | case1 a ra rb ih =>
    rw [P_cons, P_cons, List.cons_append, List.cons_append, h.step, if_pos rfl, ih none (fun _ _ => rfl),
      costFrom, Nat.add_assoc]
    rfl
  | case2 a ra b rb hne hlt ih =>
    rw [P_cons, P_cons, List.cons_append, List.cons_append, h.step, if_neg hne, if_pos hlt, costFrom,
      Nat.add_assoc]
    congr 1
    cases ra with
    | nil =>
      -- `a` was the last of its list: finger 1 is forwarded too, the rest of `b` is passed over
      rw [P_nil, List.nil_append, if_pos (show endOf pre R0 = true from h0.foreign),
        h.skips_right _ _ _ _ _ (fun _ => if_pos (fiberOf_foreign h0.foreign)) h0,
        mergeLabels_nil_left, costFrom, Nat.zero_add]
    | cons a' ra =>
      rw [endOf_P_cons, fiberOf_P_cons, if_neg (fun hh => hh rfl), if_neg Bool.false_ne_true]
      exact ih (some 0) (fun hh => nomatch hh)
  | case3 a ra b rb hne hlt ih =>
    rw [P_cons, P_cons, List.cons_append, List.cons_append, h.step, if_neg hne, if_neg hlt, costFrom,
      Nat.add_assoc]
    congr 1
    cases rb with
    | nil =>
      rw [P_nil, List.nil_append, if_pos (show endOf pre R1 = true from h1.foreign),
        h.skips_left _ _ _ _ _ (fun hh => by rw [hh]; exact if_pos (fiberOf_foreign h0.foreign)) h1,
        mergeLabels_nil_right, costFrom, Nat.zero_add]
    | cons b' rb =>
      rw [endOf_P_cons, if_neg Bool.false_ne_true, ← List.cons_append, ← P_cons, fiberOf_P_cons,
        if_neg (fun hh => hh rfl)]
      exact ih (some 1) (fun _ hh => nomatch hh)
  | case4 u v hnc =>
    cases u with
    | nil =>
      rw [P_nil, List.nil_append, h.skips_right _ _ _ _ _ (hc rfl) h0, costFrom, Nat.zero_add]
    | cons x u =>
      cases v with
      | nil =>
        rw [P_nil, List.nil_append, h.skips_left _ _ _ _ _ (fun hh => absurd hh (List.cons_ne_nil _ _)) h1,
          costFrom, Nat.zero_add]
      | cons y v => exact (hnc _ _ _ _ rfl rfl).elim

/-- a whole group in one call: the loop is charged the merge steps of every fiber, no step
    spans two fibers -/
theorem group (g : List FiberIn) (hd : ascPre g = true) :
    L none (groupPts g).1 (groupPts g).2 = costAll cost g := by
  induction g with
  | nil => exact h.nil_left _ _
  | cons f g ih =>
    obtain ⟨hdf, hdg⟩ := (ascPre_cons f g).1 hd
    obtain ⟨hF0, hF1⟩ := later_group f.pre g hdf
    rw [groupPts_cons, costAll, List.map_cons, List.sum_cons, ← costAll, ← ih hdg, ← mergeLabels_andPts f.a f.b]
    exact h.fiber f.pre _ _ _ _ none hF0 hF1 (fun _ _ => rfl)

theorem add_group (n : Nat) (g : List FiberIn) (s : IState) (hs : s.started = true)
    (hn : s.numRanks = n) (hg : ShapeOk n g) (hd : ascPre g = true) :
    addWith (L none) s (groupRows g).1 (groupRows g).2 = some { s with count := s.count + costAll cost g } := by
  subst hn
  obtain ⟨h0, h1⟩ := group_rows_points _ g hg
  rw [addWith_started (L none) (h.nil_left none) (h.nil_right none) s hs _ _ _ _ h0 h1, h.group g hd]

theorem feed_started (n : Nat) (groups : List (List FiberIn)) (s : IState) (hs : s.started = true)
    (hn : s.numRanks = n) (hg : GroupsOk n groups) :
    feed2 (addWith (L none)) s (groups.map groupRows) =
      some { s with count := s.count + costAll cost groups.flatten } := by
  induction groups generalizing s with
  | nil => simp [feed2, costAll]
  | cons g r ih =>
    obtain ⟨h1, h2⟩ := hg g (List.mem_cons_self ..)
    rw [List.map_cons, show groupRows g = ((groupRows g).1, (groupRows g).2) from rfl, feed2,
      h.add_group n g s hs hn h1 h2, Option.bind_some,
      ih { s with count := s.count + costAll cost g } hs hn (fun x hx => hg x (List.mem_cons_of_mem _ hx))]
    simp [costAll_append, Int.add_assoc]

theorem total (n : Nat) (groups : List (List FiberIn)) (hg : GroupsOk n groups) :
    (feed2 (addWith (L none)) {} (batchesOf n groups)).map (·.count) = some (costAll cost groups.flatten : Int) := by
  induction groups with
  | nil => rfl
  | cons g r ih =>
    have hr : GroupsOk n r := fun x hx => hg x (List.mem_cons_of_mem _ hx)
    cases g with
    | nil => exact ih hr
    | cons f g' =>
      obtain ⟨h1, h2⟩ := hg (f :: g') (List.mem_cons_self ..)
      have hn : ((TRow.hdr (2 * n + 1)).len - 1) / 2 = n :=
        (congrArg (· / 2) (Nat.add_sub_cancel (n := 2 * n) (m := 1))).trans (Nat.mul_div_cancel_left n Nat.zero_lt_two)
      rw [batchesOf, feed2, addWith_header _ _ rfl, hn, h.add_group n (f :: g') _ rfl rfl h1 h2,
        Option.bind_some, h.feed_started n r _ rfl rfl hr, List.flatten_cons, costAll_append,
        Option.map_some, Int.natCast_add]
      exact congrArg (fun z : Int => some (z + _)) (Int.zero_add _)

end FiberLoop

theorem tfTotal_batches (n : Nat) (groups : List (List FiberIn)) (h : GroupsOk n groups) :
    tfTotal (batchesOf n groups) = some (tfSpecAll groups.flatten : Int) := by
  rw [tfTotal, tfAdd_eq, ← costAll_one]; exact tfLoop_fiberLoop.total n groups h

theorem saTotal_batches (n : Nat) (groups : List (List FiberIn)) (h : GroupsOk n groups) :
    saTotal (batchesOf n groups) = some (saSpecAll groups.flatten : Int) := by
  rw [saTotal, saAdd_eq, ← costAll_saCost]; exact saLoop_fiberLoop.total n groups h

theorem lfAdd_started (s : IState) (hs : s.started = true) (t : List TRow) :
    lfAdd s t = { s with count := s.count + t.length } := by
  unfold lfAdd; rw [hs]; rfl

theorem lfAdd_first (s : IState) (hs : s.started = false) (x : TRow) (t : List TRow) :
    lfAdd s (x :: t) = { s with started := true, count := s.count + (((x :: t).length : Int) - 1) } := by
  unfold lfAdd; rw [hs]; rfl

theorem lfAdd_nil (s : IState) (hs : s.started = false) : lfAdd s [] = s := by
  obtain ⟨st, nr, ct⟩ := s
  cases hs
  exact congrArg (IState.mk false nr) (Int.add_zero ct)

theorem foldl_lfAdd_started (bs : List (List TRow)) (s : IState) (hs : s.started = true) :
    (bs.foldl lfAdd s).count = s.count + ((bs.map List.length).sum : Nat) := by
  induction bs generalizing s with
  | nil => exact (Int.add_zero _).symm
  | cons b r ih =>
    rw [List.foldl_cons, lfAdd_started s hs, ih { s with count := s.count + b.length } hs, List.map_cons, List.sum_cons, Int.natCast_add,
      Int.add_assoc]

/-- any batching of a trace: the total is the number of rows behind the header (nothing, as
    long as no row has arrived) -/
theorem lfTotal_rows (bs : List (List TRow)) :
    lfTotal bs = ((bs.map List.length).sum : Nat) - (if bs.all List.isEmpty then (0 : Int) else 1) := by
  have key : ∀ (bs : List (List TRow)) (s : IState), s.started = false →
      (bs.foldl lfAdd s).count =
        s.count + ((bs.map List.length).sum : Nat) - (if bs.all List.isEmpty then (0 : Int) else 1) := by
    intro bs
    induction bs with
    | nil => intro s _; simp
    | cons b r ih =>
      intro s hs
      cases b with
      | nil =>
        rw [List.foldl_cons, lfAdd_nil s hs, ih s hs]
        simp only [List.map_cons, List.length_nil, List.sum_cons, Nat.zero_add, List.all_cons,
          List.isEmpty_nil, Bool.true_and]
      | cons x t =>
        rw [List.foldl_cons, lfAdd_first s hs, foldl_lfAdd_started r _ rfl]
        simp only [List.all_cons, List.isEmpty_cons, Bool.false_and, Bool.false_eq_true, if_false,
          List.map_cons, List.sum_cons, Int.natCast_add]
        omega
  have := key bs {} rfl
  rw [Int.zero_add] at this
  exact this

theorem lfTotal_cons (b : List TRow) (r : List (List TRow)) (hb : b ≠ []) :
    lfTotal (b :: r) = (((b :: r).map List.length).sum : Nat) - 1 := by
  rw [lfTotal_rows]
  have : (b :: r).all List.isEmpty = false := by
    cases b with
    | nil => exact absurd rfl hb
    | cons _ _ => simp
  rw [this]; simp

theorem length_leaderRows (f : FiberIn) : f.leaderRows.length = f.a.length := by
  simp [FiberIn.leaderRows, mkRows]

theorem lfSpecAll_append (g h : List FiberIn) : lfSpecAll (g ++ h) = lfSpecAll g + lfSpecAll h := by
  simp [lfSpecAll]

theorem sum_leader_lengths (groups : List (List FiberIn)) :
    ((groups.map (fun g => g.flatMap FiberIn.leaderRows)).map List.length).sum = lfSpecAll groups.flatten := by
  induction groups with
  | nil => rfl
  | cons g r ih =>
    simp only [List.map_cons, List.sum_cons, ih, List.flatten_cons, lfSpecAll_append]
    congr 1
    rw [List.length_flatMap]
    simp [lfSpecAll, length_leaderRows]

theorem singletons_ok (n : Nat) (fs : List FiberIn)
    (hshape : ∀ f ∈ fs, f.oi.length + 1 = n ∧ f.pre.length + 1 = n) :
    GroupsOk n (fs.map (fun f => [f])) := by
  intro g hg
  obtain ⟨f, hf, rfl⟩ := List.mem_map.1 hg
  refine ⟨?_, rfl⟩
  intro f' hf'
  rw [List.mem_singleton.1 hf']
  exact hshape f hf

theorem flatten_singletons (fs : List FiberIn) : (fs.map (fun f => [f])).flatten = fs := by
  induction fs with
  | nil => rfl
  | cons f r ih => simp [ih]

end Ft
