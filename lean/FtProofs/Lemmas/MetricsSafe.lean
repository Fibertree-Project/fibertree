/-
  C15 lemmas: the calls of a loop nest never trip an assertion of `Metrics`
  (`safeB` is the static condition: every rank is registered before it is used).
-/
import FtProofs.Lemmas.MetricsSession
namespace Ft.C15

/-- the session invariant plus what the loop-nest calls need in order to succeed; the ranks in `regd` are
    among the registered ones -/
def RInv (p : String) (regd : List String) (s : MState) : Prop :=
  SInv p s ∧ ∃ lo it lp pt m, s.lineOrder = some lo ∧ s.iteration = some it ∧ s.loopOrder = some lp ∧
    s.point = some pt ∧ s.metrics = some m ∧ (∀ r i, dget lo r = some i → i < it.length) ∧
    ∀ r, regd.contains r = true → dhas lo r = true

theorem regd_idx {p : String} {s : MState} (hs : SInv p s) {lo : Dict Nat} (hlo : s.lineOrder = some lo)
    {r : String} (hd : dhas lo r = true) :
    known s r = true ∧ ∃ i, dget lo r = some i ∧ lineIdx s r = some i := by
  obtain ⟨i, hi⟩ := dget_of_dhas hd
  exact ⟨by rw [known_iff hs hlo]; exact hd, i, hi, by simp [lineIdx, hlo, hi]⟩

theorem writeTrace_ok {p : String} {s : MState} {r t : String} {tr : TraceSt} (hs : SInv p s)
    (htr : dget s.traces (r, t) = some tr) : ∃ s', writeTrace s r t = some s' := by
  obtain ⟨f, hfile⟩ := hs.file htr
  unfold writeTrace
  rw [htr, hs.pfx]
  simp only [hfile]
  exact ⟨_, rfl⟩

theorem startTrace_ok {p : String} {s : MState} {r t : String} {i : Nat} {lp : List String} (hs : SInv p s)
    (hi : lineIdx s r = some i) (hlp : s.loopOrder = some lp) (hd : dhas s.traces (r, t) = true) :
    ∃ s', startTrace s r t = some s' := by
  obtain ⟨tr, htr⟩ := dget_of_dhas hd
  obtain ⟨f, hfile⟩ := hs.file htr
  unfold startTrace
  rw [hi, hlp, htr]
  simp only [hfile, hs.pfx, Option.map_some]
  exact ⟨_, rfl⟩

theorem startAll_ok {p : String} {s : MState} {r : String} {i : Nat} {lp : List String} (hs : SInv p s)
    (hi : lineIdx s r = some i) (hlp : s.loopOrder = some lp) :
    ∃ s', startAll s r = some s' ∧ SInv p s' ∧ SameCore s s' :=
  -- `SameCore` to the state at the start carries the line index, the loop order and the declared traces along
  foldlM_ok (fun s t => startTrace s r t) (fun x => SInv p x ∧ SameCore s x) (typesOf s r) s
    (fun a t ht ⟨ha, hc⟩ => by
      have hi' : lineIdx a r = some i := by unfold lineIdx at hi ⊢; rw [hc.lo, hc.rm]; exact hi
      obtain ⟨b, hb⟩ := startTrace_ok ha hi' (hc.lp.trans hlp)
        (by rw [dhas_iff_mem_keys, hc.keys, ← dhas_iff_mem_keys]; exact (mem_typesOf s r t).1 ht)
      exact ⟨b, hb, startTrace_sinv ha hb, hc.trans (startTrace_core hb)⟩)
    ⟨hs, SameCore.refl s⟩

theorem mRegister_ok {p : String} {regd : List String} {s : MState} (rank : String) (hr : RInv p regd s) :
    ∃ s', mRegister rank s = some s' ∧ RInv p (rank :: regd) s' := by
  obtain ⟨hs, lo, it, lp, pt, m, hlo, hit, hlp, hpt, hm, hbound, hall⟩ := hr
  -- `rank` joins `regd` in a line order that has `rank` and everything the old one had
  have ext : ∀ lo' : Dict Nat, dhas lo' rank = true → (∀ x, dhas lo x = true → dhas lo' x = true) →
      ∀ x, (rank :: regd).contains x = true → dhas lo' x = true := by
    intro lo' h1 h2 x hx
    rw [List.contains_cons, Bool.or_eq_true] at hx
    rcases hx with hx | hx
    · rw [eq_of_beq hx]; exact h1
    · exact h2 x (hall x hx)
  unfold mRegister
  rw [if_pos hs.coll, hlo, hit, hlp, hpt]
  simp only
  by_cases hd : dhas lo rank = true
  · rw [if_pos hd]
    exact ⟨s, rfl, hs, lo, it, lp, pt, m, hlo, hit, hlp, hpt, hm, hbound, ext lo hd (fun _ h => h)⟩
  · rw [if_neg hd]
    have hs1 : SInv p (regState s rank lo it lp pt) := ⟨hs.coll, hs.pfx, hs.arm, hs.rm, hs.files, hs.nodup⟩
    have hidx : lineIdx (regState s rank lo it lp pt) rank = some it.length := by
      simp [lineIdx, regState, dget_dset_self]
    obtain ⟨s2, h2', hs2, hcore⟩ := startAll_ok hs1 hidx rfl
    rw [h2']
    simp only
    rw [show s2.allRankMatches = [] from hcore.arm.trans hs.arm]
    refine ⟨s2, rfl, hs2, dset lo rank it.length, it ++ [0], lp ++ [rank], pt ++ [0], m, hcore.lo, hcore.it,
      hcore.lp, hcore.pt, hcore.met.trans hm, ?_, ext _ (by rw [dhas_dset]; simp) (fun x hx => by rw [dhas_dset, hx]; simp)⟩
    intro r i hri
    simp only [List.length_append, List.length_cons, List.length_nil]
    by_cases hrr : r = rank
    · subst hrr; rw [dget_dset_self] at hri; cases hri; omega
    · rw [dget_dset_ne _ _ hrr] at hri
      have := hbound r i hri; omega

theorem pushRow_ok {p : String} {rank t : String} {tr : TraceSt} (data : Row) {s1 : MState}
    (hs1 : SInv p s1) (htr : dget s1.traces (rank, t) = some tr) : ∃ s', pushRow s1 rank t tr data = some s' := by
  obtain ⟨f, hfile⟩ := hs1.file htr
  unfold pushRow
  rw [hfile]
  simp only
  split
  · have hs2 : SInv p (setTrace s1 (rank, t) (withRow tr f data)) :=
      hs1.set _ (by simp [withRow, (hs1.entry htr).1]) rfl _
    exact writeTrace_ok (tr := withRow tr f data) hs2 (by simp [setTrace, dget_dset_self])
  · exact ⟨_, rfl⟩

theorem mAddUse_ok {p : String} {regd : List String} {s : MState} (rank : String) (c pos : Int) (ty : String)
    (hr : RInv p regd s) (hreg : regd.contains rank = true) :
    ∃ s', mAddUse rank c pos ty none s = some s' ∧ RInv p regd s' := by
  obtain ⟨hs, lo, it, lp, pt, m, hlo, hit, hlp, hpt, hm, hbound, hall⟩ := hr
  obtain ⟨hknown, i, hi, hidx⟩ := regd_idx hs hlo (hall rank hreg)
  unfold mAddUse
  rw [hs.coll, hknown, hlo, hpt, hidx]
  simp only [Bool.and_self, if_true]
  have hs1 : SInv p (setPoint s (newPoint lo pt rank i c)) :=
    ⟨hs.coll, hs.pfx, hs.arm, hs.rm, hs.files, hs.nodup⟩
  have hfin : ∀ s', recordUse (setPoint s (newPoint lo pt rank i c)) rank ty
      (newPoint lo pt rank i c) i c pos none = some s' → RInv p regd s' := by
    intro s' h'
    have hcore := recordUse_core h'
    have hsinv : SInv p s' := by
      unfold recordUse at h'
      split at h'
      · cases h'; exact hs1
      · rename_i tr htr
        split at h'
        · cases h'
        · exact pushRow_sinv h' hs1 htr
    exact ⟨hsinv, lo, it, lp, _, m, hcore.lo.trans hlo, hcore.it.trans hit, hcore.lp.trans hlp, hcore.pt,
      hcore.met.trans hm, hbound, hall⟩
  unfold recordUse at hfin ⊢
  cases htr : dget (setPoint s (newPoint lo pt rank i c)).traces (rank, ty) with
  | none =>
    simp only [htr] at hfin ⊢
    exact ⟨_, rfl, hfin _ rfl⟩
  | some tr =>
    have hit' : (setPoint s (newPoint lo pt rank i c)).iteration = some it := hit
    simp only [htr, hit'] at hfin ⊢
    obtain ⟨s', h'⟩ := pushRow_ok (useRow it (newPoint lo pt rank i c) i c pos) hs1 htr
    exact ⟨s', h', hfin s' h'⟩

/-- a call that `safeB` admits goes through and keeps the invariant, for the ranks `safeB` goes on with -/
theorem step_safe {p : String} {regd : List String} {s : MState} {op : MOp} {ops : List MOp} (hr : RInv p regd s)
    (hsafe : safeB regd (op :: ops) = true) :
    ∃ x s1 regd', step op s = some (x, s1) ∧ RInv p regd' s1 ∧ safeB regd' ops = true := by
  have ⟨hs, lo, it, lp, pt, m, hlo, hit, hlp, hpt, hm, hbound, hall⟩ := hr
  cases op with
  | registerRank r =>
    obtain ⟨s1, h1, hr1⟩ := mRegister_ok r hr
    exact ⟨.unit, s1, r :: regd, congrArg (Option.map fun s' => (MRet.unit, s')) h1, hr1, hsafe⟩
  | addUse r c pos t itn =>
    cases itn with
    | some l => cases hsafe
    | none =>
      obtain ⟨hr', hsafe'⟩ := Bool.and_eq_true_iff.1 hsafe
      obtain ⟨s1, h1, hr1⟩ := mAddUse_ok r c pos t hr hr'
      exact ⟨.unit, s1, regd, congrArg (Option.map fun s' => (MRet.unit, s')) h1, hr1, hsafe'⟩
  | incIter r =>
    obtain ⟨hr', hsafe'⟩ := Bool.and_eq_true_iff.1 hsafe
    obtain ⟨hknown, i, hi, hidx⟩ := regd_idx hs hlo (hall r hr')
    -- the guards of `mIncIter` hold: collecting, `r` known, its index inside the iteration vector
    have hstep : step (.incIter r) s =
        some (.unit, { s with iteration := some (it.modify i (· + 1)) }) := by
      simp [step, mIncIter, hs.coll, hknown, hit, hidx, hbound r i hi]
    refine ⟨_, _, regd, hstep, ⟨⟨hs.coll, hs.pfx, hs.arm, hs.rm, hs.files, hs.nodup⟩, lo, _, lp, pt, m, hlo, rfl,
      hlp, hpt, hm, ?_, hall⟩, hsafe'⟩
    intro r' i' h'
    rw [List.length_modify]; exact hbound r' i' h'
  | endIter r =>
    obtain ⟨hr', hsafe'⟩ := Bool.and_eq_true_iff.1 hsafe
    obtain ⟨_, i, hi, hidx⟩ := regd_idx hs hlo (hall r hr')
    have hstep : step (.endIter r) s =
        some (.unit, { s with fiberLabel := dset s.fiberLabel r 0, iteration := some (it.set i 0) }) := by
      simp [step, mEndIter, hs.coll, hit, hidx, hbound r i hi]
    refine ⟨_, _, regd, hstep, ⟨⟨hs.coll, hs.pfx, hs.arm, hs.rm, hs.files, hs.nodup⟩, lo, _, lp, pt, m, hlo, rfl,
      hlp, hpt, hm, ?_, hall⟩, hsafe'⟩
    intro r' i' h'
    rw [List.length_set]; exact hbound r' i' h'
  | incCount l k n =>
    -- `mIncCount` only asks for a collecting session with a metrics dictionary
    have hstep : step (.incCount l k n) s =
        some (.unit, { s with metrics := some (dset m (strip l) (dset ((dget m (strip l)).getD []) k
          ((dget ((dget m (strip l)).getD []) k).getD 0 + n))) }) := by
      simp [step, mIncCount, hs.coll, hm]
    exact ⟨_, _, regd, hstep, ⟨⟨hs.coll, hs.pfx, hs.arm, hs.rm, hs.files, hs.nodup⟩, lo, it, lp, pt, _, hlo, hit,
      hlp, hpt, rfl, hbound, hall⟩, hsafe⟩
  | _ => cases hsafe

theorem run_safe {p : String} : ∀ (ops : List MOp) (regd : List String) (s : MState), RInv p regd s →
    safeB regd ops = true → ∃ rs s' regd', runOps ops s = some (rs, s') ∧ RInv p regd' s' := by
  intro ops
  induction ops with
  | nil => intro regd s hr _; exact ⟨[], s, regd, rfl, hr⟩
  | cons op ops ih =>
    intro regd s hr hsafe
    obtain ⟨x, s1, regd', h1, hr1, hsafe1⟩ := step_safe hr hsafe
    obtain ⟨rs, s', regd'', h2, hr'⟩ := ih regd' s1 hr1 hsafe1
    exact ⟨x :: rs, s', regd'', runOps_cons.2 ⟨x, s1, rs, h1, h2, rfl⟩, hr'⟩

theorem mEnd_ok {p : String} {s : MState} (hs : SInv p s) : ∃ s', mEnd s = some s' := by
  obtain ⟨s1, h1, _⟩ := foldlM_ok endOne (fun x => SInv p x ∧ SameCore s x) s.traces s
    (fun a e he ⟨ha, hc⟩ => by
      obtain ⟨tr, htr⟩ := dget_of_dhas (d := a.traces) (k := e.1)
        (by rw [dhas_iff_mem_keys, hc.keys]; exact List.mem_map.2 ⟨e, he, rfl⟩)
      obtain ⟨b, hb⟩ := writeTrace_ok (r := e.1.1) (t := e.1.2) ha htr
      exact ⟨b, by rw [endOne_eq (hs.files e he)]; exact hb, writeTrace_sinv ha hb, hc.trans (writeTrace_core hb)⟩)
    ⟨hs, SameCore.refl s⟩
  exact ⟨_, by unfold mEnd; rw [h1]; rfl⟩

end Ft.C15
