/-
  Helper lemmas for C02 (rank bookkeeping mirrors the tree).
-/
import FtProofs.Lemmas.MutLemmas
import FtModel.Ranks
set_option linter.unusedSectionVars false
namespace Ft
open StrictTotal
open List

section
variable {κ ν : Type}

/-- the paths registered at rank `i` among a list of registrations -/
def newAt (regs : List (Nat × List κ)) (i : Nat) : List (List κ) :=
  (regs.filter (fun r => r.1 == i)).map (·.2)

theorem newAt_nil (i : Nat) : newAt ([] : List (Nat × List κ)) i = [] := rfl

theorem newAt_cons (r : Nat × List κ) (rs : List (Nat × List κ)) (i : Nat) :
    newAt (r :: rs) i = if r.1 = i then r.2 :: newAt rs i else newAt rs i := by
  unfold newAt
  rw [List.filter_cons]
  by_cases h : r.1 = i
  · rw [if_pos h, if_pos (beq_iff_eq.2 h), List.map_cons]
  · rw [if_neg h, if_neg (fun hb => h (beq_iff_eq.1 hb))]

theorem newAt_append (a b : List (Nat × List κ)) (i : Nat) : newAt (a ++ b) i = newAt a i ++ newAt b i := by
  simp [newAt, List.filter_append]

theorem newAt_map_succ (regs : List (Nat × List κ)) (c : κ) (j : Nat) :
    newAt (regs.map (fun r => (r.1 + 1, c :: r.2))) (j + 1) = (newAt regs j).map (c :: ·) := by
  unfold newAt
  rw [List.filter_map, List.map_map, List.map_map]
  have : ((fun r : Nat × List κ => r.1 == j + 1) ∘ fun r : Nat × List κ => (r.1 + 1, c :: r.2)) = fun r => r.1 == j := by
    funext r; simp
  rw [this]; rfl

theorem newAt_map_zero (regs : List (Nat × List κ)) (c : κ) :
    newAt (regs.map (fun r => (r.1 + 1, c :: r.2))) 0 = [] := by
  unfold newAt
  rw [List.filter_map, List.filter_eq_nil_iff.2 (fun r _ => by simp)]; rfl

theorem pathsAt_zero (d : Nat) (t : Tree κ ν (d + 1)) : pathsAt (d + 1) t 0 = [[]] := rfl

theorem pathsAt_succ (d : Nat) (f : Tree κ ν (d + 1)) (i : Nat) :
    pathsAt (d + 1) f (i + 1) =
      (show List (κ × Tree κ ν d) from f).flatMap (fun e => (pathsAt d e.2 i).map (e.1 :: ·)) := rfl

theorem pathsAt_leaf (t : Tree κ ν 0) (i : Nat) : pathsAt 0 t i = [] := rfl

theorem pathsAt_one_succ (t : Tree κ ν 1) (i : Nat) : pathsAt 1 t (i + 1) = [] :=
  List.flatMap_eq_nil_iff.2 (fun _ _ => rfl)

theorem pathsAt_cons (d : Nat) (e : κ × Tree κ ν d) (r : List (κ × Tree κ ν d)) (i : Nat) :
    pathsAt (d + 1) (e :: r : List (κ × Tree κ ν d)) (i + 1) =
      (pathsAt d e.2 i).map (e.1 :: ·) ++ pathsAt (d + 1) r (i + 1) := rfl

theorem pathsAt_append (d : Nat) (A B : List (κ × Tree κ ν d)) (i : Nat) :
    pathsAt (d + 1) (A ++ B : List (κ × Tree κ ν d)) (i + 1) = pathsAt (d + 1) A (i + 1) ++ pathsAt (d + 1) B (i + 1) :=
  List.flatMap_append

theorem pathsAt_length : ∀ (d : Nat) (t : Tree κ ν d) (i : Nat) (p : List κ), p ∈ pathsAt d t i → p.length = i := by
  intro d
  induction d with
  | zero => intro _ _ _ h; cases h
  | succ d ih =>
    intro f i p h
    cases i with
    | zero => rw [pathsAt_zero] at h; rw [List.mem_singleton.1 h]; rfl
    | succ i =>
      obtain ⟨e, _, hp⟩ := List.mem_flatMap.1 h
      obtain ⟨q, hq, rfl⟩ := List.mem_map.1 hp
      rw [List.length_cons, ih e.2 i q hq]

theorem pathsAt_defaultTree (dflt : ν) : ∀ (d i : Nat),
    pathsAt d (defaultTree (κ := κ) dflt d) i = if 0 < d ∧ i = 0 then [[]] else []
  | 0, i => by simp [pathsAt_leaf]
  | d + 1, 0 => by simp [pathsAt_zero]
  | d + 1, i + 1 => by
    rw [pathsAt_succ]; simp [defaultTree]

end

section
variable {κ ν : Type} [LT κ] [DecidableRel (α := κ) (· < ·)] [DecidableEq κ] [StrictTotal κ]

theorem refReg_cons_some (dflt : ν) {d : Nat} {f : List (κ × Tree κ ν d)} (hs : Sorted f) {c : κ} {s : Tree κ ν d}
    (hl : lookup f c = some s) (cs : List κ) :
    refReg dflt (d + 1) f (c :: cs) = (refReg dflt d s cs).map (fun r => (r.1 + 1, c :: r.2)) := by
  simp only [refReg]
  rw [posLookup_eq_lookup hs, hl]

theorem refReg_cons_none (dflt : ν) {d : Nat} {f : List (κ × Tree κ ν d)} (hs : Sorted f) {c : κ}
    (hl : lookup f c = none) (cs : List κ) :
    refReg dflt (d + 1) f (c :: cs) =
      (if d = 0 then [] else [(1, [c])]) ++
        (refReg dflt d (defaultTree dflt d) cs).map (fun r => (r.1 + 1, c :: r.2)) := by
  simp only [refReg]
  rw [posLookup_eq_lookup hs, hl]
  cases d <;> rfl

/-- **insertion**: after `getPayloadRef(*p)` the fibers found at depth `i` are the old ones plus
    exactly the registered new ones -/
theorem pathsAt_refAt (dflt : ν) : ∀ (d : Nat) (t : Tree κ ν d), WF d t → ∀ (p : List κ) (i : Nat),
    (pathsAt d (refAt dflt d t p) i).Perm (pathsAt d t i ++ newAt (refReg dflt d t p) i) := by
  intro d
  induction d with
  | zero => intro _ _ _ _; exact .refl _
  | succ d ih =>
    intro t h p i
    cases p with
    | nil => show pathsAt (d + 1) t i ~ pathsAt (d + 1) t i ++ []; rw [List.append_nil]
    | cons c cs =>
      cases hl : lookup (show List (κ × Tree κ ν d) from t) c with
      | some s =>
        rw [refAt_cons_some dflt h.sorted hl, refReg_cons_some dflt h.sorted hl]
        cases i with
        | zero => rw [newAt_map_zero, List.append_nil]; exact .refl _
        | succ j =>
          obtain ⟨A, B, rfl, hA, hB⟩ := exists_split_of_lookup h.sorted hl
          rw [map_key_split hA hB s (fun x => refAt dflt d x cs), newAt_map_succ]
          simp only [pathsAt_append, pathsAt_cons]
          have := (ih s (h.sub _ (mem_of_lookup_eq_some hl)) cs j).map (c :: ·)
          rw [List.map_append] at this
          exact perm_mid _ _ this
      | none =>
        rw [refAt_cons_none dflt h.sorted hl, refReg_cons_none dflt h.sorted hl, newAt_append]
        cases i with
        | zero => rw [newAt_map_zero, List.append_nil]; cases d <;> exact .refl _
        | succ j =>
          rw [newAt_map_succ]
          refine (flatMap_insert_perm _ _ (lowerBound _ c) (c, refAt dflt d (defaultTree dflt d) cs)).trans ?_
          refine List.Perm.append_left _ (((ih _ (wf_defaultTree dflt d) cs j).map (c :: ·)).trans ?_)
          -- the new element's paths: the empty path if the default is a fiber, plus the registrations below it
          rw [List.map_append, pathsAt_defaultTree]
          cases d with
          | zero => exact .refl _
          | succ d' => cases j <;> exact .refl _

end
end Ft

namespace Ft
open StrictTotal
open List
section
variable {κ ν : Type}

theorem regAppend_length (R : RankLists κ) (i : Nat) (p : List κ) : (regAppend R i p).length = R.length := by
  simp [regAppend]

theorem regAppend_getD (R : RankLists κ) (i k : Nat) (p : List κ) (hk : k < R.length) :
    (regAppend R i p).getD k [] = if k = i then R.getD k [] ++ [p] else R.getD k [] :=
  List.getD_mapIdx R _ [] hk

theorem foldl_regAppend_length (regs : List (Nat × List κ)) : ∀ (R : RankLists κ),
    (regs.foldl (fun R r => regAppend R r.1 r.2) R).length = R.length := by
  induction regs with
  | nil => intro R; rfl
  | cons r rs ih => intro R; simp only [List.foldl_cons]; rw [ih, regAppend_length]

theorem foldl_regAppend_getD (regs : List (Nat × List κ)) : ∀ (R : RankLists κ) (k : Nat), k < R.length →
    (regs.foldl (fun R r => regAppend R r.1 r.2) R).getD k [] = R.getD k [] ++ newAt regs k := by
  induction regs with
  | nil => intro R k _; simp [newAt]
  | cons r rs ih =>
    intro R k hk
    simp only [List.foldl_cons]
    rw [ih _ k (by rw [regAppend_length]; exact hk), regAppend_getD R r.1 k r.2 hk]
    rw [newAt_cons]
    by_cases h : k = r.1
    · rw [if_pos h, if_pos h.symm, List.append_assoc]; rfl
    · rw [if_neg h, if_neg (fun e => h e.symm)]

/-- rank `i` lists exactly the fibers found at depth `i` (each once), for every rank -/
def Mirror (d : Nat) (t : Tree κ ν d) (R : RankLists κ) : Prop :=
  R.length = d ∧ ∀ i, i < d → (R.getD i []).Perm (pathsAt d t i)

end

section
variable {κ ν : Type} [LT κ] [DecidableRel (α := κ) (· < ·)] [DecidableEq κ] [StrictTotal κ]

theorem mirrorB_iff (d : Nat) (t : Tree κ ν d) (R : RankLists κ) : mirrorB d t R = true ↔ Mirror d t R := by
  unfold mirrorB Mirror
  simp only [Bool.and_eq_true, beq_iff_eq, List.all_eq_true, List.mem_range, List.isPerm_iff]

end
end Ft

namespace Ft
open StrictTotal
open List
section
variable {κ ν : Type} [LT κ] [DecidableRel (α := κ) (· < ·)] [DecidableEq κ] [StrictTotal κ]

theorem properPrefix_nil (p : List κ) : properPrefix [] p = decide (0 < p.length) := by
  simp [properPrefix]

theorem properPrefix_cons_nil (c : κ) (cs : List κ) : properPrefix (c :: cs) [] = false := by
  simp [properPrefix]

theorem properPrefix_cons_cons (c e : κ) (cs p : List κ) :
    properPrefix (c :: cs) (e :: p) = (decide (c = e) && properPrefix cs p) := by
  simp only [properPrefix, List.length_cons, List.isPrefixOf_cons_cons, Nat.add_lt_add_iff_right]
  by_cases h : c = e <;> simp [h, Bool.and_comm]

/-- `Fiber.clear()` as a transformer for `atPath`: the fiber loses all its elements, never rejected -/
def clrF : (d : Nat) → Tree κ ν (d + 1) → Tree κ ν (d + 1) × Outcome := fun _ _ => (([] : List _), Outcome.ok)

theorem filter_map_cons_eq (c : κ) (cs : List κ) (l : List (List κ)) :
    (l.map (c :: ·)).filter (fun p => !properPrefix (c :: cs) p) =
      (l.filter (fun p => !properPrefix cs p)).map (c :: ·) := by
  rw [List.filter_map]
  congr 1
  apply List.filter_congr
  intro p _
  simp [properPrefix_cons_cons]

/-- no fiber at a depth within the length of `q` lies strictly below `q` -/
theorem filter_below_of_le (d : Nat) (t : Tree κ ν d) {i : Nat} {q : List κ} (h : i ≤ q.length) :
    (pathsAt d t i).filter (fun p => !properPrefix q p) = pathsAt d t i := by
  rw [List.filter_eq_self]
  intro p hp
  have := pathsAt_length d t i p hp
  simp only [properPrefix, Bool.not_eq_true', Bool.and_eq_false_iff, decide_eq_false_iff_not]
  exact Or.inl (by omega)

/-- every fiber below the root lies strictly below the root -/
theorem filter_below_nil (d : Nat) (t : Tree κ ν d) (i : Nat) :
    (pathsAt d t (i + 1)).filter (fun p => !properPrefix [] p) = [] := by
  rw [List.filter_eq_nil_iff]
  intro p hp
  simp [properPrefix_nil, pathsAt_length d t (i + 1) p hp]

/-- no fiber under the elements with another coordinate lies below `c :: cs` -/
theorem filter_below_of_ne {d : Nat} {A : List (κ × Tree κ ν d)} {c : κ} (hA : ∀ x ∈ A, x.1 ≠ c) (cs : List κ)
    (i : Nat) :
    (pathsAt (d + 1) A (i + 1)).filter (fun p => !properPrefix (c :: cs) p) = pathsAt (d + 1) A (i + 1) := by
  rw [List.filter_eq_self]
  intro p hp
  obtain ⟨e, he, hp⟩ := List.mem_flatMap.1 hp
  obtain ⟨q', _, rfl⟩ := List.mem_map.1 hp
  rw [properPrefix_cons_cons, decide_eq_false (fun h => hA e he h.symm)]; rfl

/-- **clearing** the fiber at `q` removes from every depth exactly the fibers strictly below `q` -/
theorem pathsAt_clear : ∀ (d : Nat) (t : Tree κ ν (d + 1)), WF (d + 1) t → ∀ (q : List κ) (i : Nat),
    pathsAt (d + 1) (atPath clrF d t q).1 i = (pathsAt (d + 1) t i).filter (fun p => !properPrefix q p) := by
  intro d
  induction d with
  | zero =>
    intro t _ q i
    cases i with
    | zero => exact (filter_below_of_le 1 t (Nat.zero_le _)).symm
    | succ i =>
      cases q with
      | nil => exact (filter_below_nil 1 t i).symm
      | cons c cs => show pathsAt 1 t (i + 1) = _; rw [pathsAt_one_succ]; rfl
  | succ d ih =>
    intro t h q i
    cases i with
    | zero => exact (filter_below_of_le (d + 2) t (Nat.zero_le _)).symm
    | succ i =>
      cases q with
      | nil => exact (filter_below_nil (d + 2) t i).symm
      | cons c cs =>
        cases hl : lookup (show List (κ × Tree κ ν (d + 1)) from t) c with
        | none =>
          rw [atPath_cons_none clrF hl]
          exact (filter_below_of_ne (ne_of_lookup_eq_none hl) cs i).symm
        | some s =>
          obtain ⟨A, B, rfl, hA, hB⟩ := exists_split_of_lookup h.sorted hl
          rw [atPath_cons_some clrF hl, map_key_split hA hB s (fun _ => (atPath clrF d s cs).1)]
          simp only [pathsAt_append, pathsAt_cons, List.filter_append, filter_below_of_ne hA, filter_below_of_ne hB,
            filter_map_cons_eq, ih s (h.sub _ (mem_of_lookup_eq_some hl)) cs i]

end
end Ft

namespace Ft
open StrictTotal
open List
section
variable {κ ν : Type} [LT κ] [DecidableRel (α := κ) (· < ·)] [DecidableEq κ] [StrictTotal κ]

theorem filter_properPrefix_map_cons (c : κ) (cs : List κ) (l : List (List κ)) :
    (l.map (c :: ·)).filter (fun p => properPrefix (c :: cs) p) =
      (l.filter (fun p => properPrefix cs p)).map (c :: ·) := by
  rw [List.filter_map]
  congr 1
  apply List.filter_congr
  intro p _
  simp [properPrefix_cons_cons]

/-- `pathsAt_atPath` at depth `i = 0`: there is only the root, whatever is done below it (the part for new
    fibers is empty, as no depth `0` lies below `q`) -/
theorem pathsAt_atPath_zero (F : (d : Nat) → Tree κ ν (d + 1) → Tree κ ν (d + 1) × Outcome)
    (d : Nat) (t : Tree κ ν (d + 1)) (q : List κ) :
    pathsAt (d + 1) (atPath F d t q).1 0 ~
      (pathsAt (d + 1) t 0).filter (fun p => !properPrefix q p) ++
      (match locate d t q with
       | some ⟨d', s⟩ => ((pathsAt (d' + 1) (F d' s).1 (0 - q.length)).filter (fun _ => decide (q.length < 0))).map (q ++ ·)
       | none => []) := by
  rw [filter_below_of_le (d + 1) t (Nat.zero_le _)]
  cases locate d t q with
  | none => exact .refl _
  | some x =>
    obtain ⟨d', s'⟩ := x
    show [[]] ~ [[]] ++ List.map _ (List.filter (fun _ => decide (q.length < 0)) _)
    rw [List.filter_eq_nil_iff.2 (fun _ _ => by simp)]; exact .refl _

/-- `pathsAt_atPath` at `q = []` and depth `i + 1`: a transformer applied at the fiber itself replaces
    everything below the root (nothing of the old fiber survives the filter, all of the new one comes in) -/
theorem pathsAt_atPath_nil (F : (d : Nat) → Tree κ ν (d + 1) → Tree κ ν (d + 1) × Outcome)
    (d : Nat) (t : Tree κ ν (d + 1)) (i : Nat) :
    pathsAt (d + 1) (F d t).1 (i + 1) ~
      (pathsAt (d + 1) t (i + 1)).filter (fun p => !properPrefix [] p) ++
      ((pathsAt (d + 1) (F d t).1 (i + 1 - 0)).filter (fun _ => decide (0 < i + 1))).map ([] ++ ·) := by
  rw [filter_below_nil (d + 1) t i, List.filter_eq_self.2 (fun _ _ => decide_eq_true (Nat.succ_pos i))]
  exact (List.map_id' _).symm ▸ .refl _

/-- **lifting**: a transformer applied at the sub-fiber reached by `q` changes, at every depth,
    exactly the paths strictly below `q`: they become `q ++ p'` for the paths `p'` of the new
    sub-fiber. (Depths `≤ |q|` are untouched: take `i ≤ |q|`, then nothing is strictly below.) -/
theorem pathsAt_atPath (F : (d : Nat) → Tree κ ν (d + 1) → Tree κ ν (d + 1) × Outcome) :
    ∀ (d : Nat) (t : Tree κ ν (d + 1)), WF (d + 1) t → ∀ (q : List κ) (i : Nat),
    pathsAt (d + 1) (atPath F d t q).1 i ~
      (pathsAt (d + 1) t i).filter (fun p => !properPrefix q p) ++
      (match locate d t q with
       | some ⟨d', s⟩ => ((pathsAt (d' + 1) (F d' s).1 (i - q.length)).filter (fun _ => decide (q.length < i))).map (q ++ ·)
       | none => []) := by
  intro d
  induction d with
  | zero =>
    intro t _ q i
    cases i with
    | zero => exact pathsAt_atPath_zero F 0 t q
    | succ i =>
      cases q with
      | nil => exact pathsAt_atPath_nil F 0 t i
      | cons c cs =>
        -- the payloads of a leaf fiber are no fibers
        show pathsAt 1 t (i + 1) ~ (pathsAt 1 t (i + 1)).filter _ ++ []
        rw [pathsAt_one_succ]; exact .refl _
  | succ d ih =>
    intro t h q i
    cases i with
    | zero => exact pathsAt_atPath_zero F _ t q
    | succ i =>
      cases q with
      | nil => exact pathsAt_atPath_nil F _ t i
      | cons c cs =>
        cases hl : lookup (show List (κ × Tree κ ν (d + 1)) from t) c with
        | none =>
          -- on a path that is not stored nothing changes, and nothing lies below it
          rw [atPath_cons_none F hl, locate_cons_none hl, List.append_nil,
            filter_below_of_ne (ne_of_lookup_eq_none hl) cs i]
        | some s =>
          -- the element stored at `c` splits the fiber; only its block holds fibers below `c :: cs`
          obtain ⟨A, B, rfl, hA, hB⟩ := exists_split_of_lookup h.sorted hl
          rw [atPath_cons_some F hl, locate_cons_some hl, map_key_split hA hB s (fun _ => (atPath F d s cs).1)]
          simp only [pathsAt_append, pathsAt_cons, List.filter_append, filter_below_of_ne hA, filter_below_of_ne hB,
            filter_map_cons_eq]
          have ih := (ih s (h.sub _ (mem_of_lookup_eq_some hl)) cs i).map (c :: ·)
          rw [List.map_append] at ih
          -- the fibers below `c :: cs` are those below `cs` in the element stored at `c`
          cases hloc : locate d s cs with
          | none => rw [hloc] at ih; exact perm_mid _ _ ih
          | some x =>
            obtain ⟨d', s'⟩ := x
            rw [hloc] at ih
            simp only [List.length_cons, Nat.add_sub_add_right, Nat.add_lt_add_iff_right, List.map_map] at ih ⊢
            exact perm_mid _ _ ih

end
end Ft

namespace Ft
open StrictTotal
open List
section
variable {κ ν : Type} [LT κ] [DecidableRel (α := κ) (· < ·)] [DecidableEq κ] [StrictTotal κ]

/-- `pathsAt_atPath` at a stored path: at the depths below `q` the fibers of the new sub-fiber come in -/
theorem pathsAt_atPath_of_locate (F : (d : Nat) → Tree κ ν (d + 1) → Tree κ ν (d + 1) × Outcome)
    {d : Nat} {t : Tree κ ν (d + 1)} (h : WF (d + 1) t) {q : List κ} {d' : Nat} {s : Tree κ ν (d' + 1)}
    (hloc : locate d t q = some ⟨d', s⟩) (i : Nat) :
    pathsAt (d + 1) (atPath F d t q).1 i ~ (pathsAt (d + 1) t i).filter (fun p => !properPrefix q p) ++
      if q.length < i then (pathsAt (d' + 1) (F d' s).1 (i - q.length)).map (q ++ ·) else [] := by
  have key := pathsAt_atPath F d t h q i
  rw [hloc] at key
  simp only at key
  by_cases hq : q.length < i
  · rw [if_pos hq]
    rwa [List.filter_eq_self.2 (fun _ _ => decide_eq_true hq)] at key
  · rw [if_neg hq]
    rwa [List.filter_eq_nil_iff (p := fun _ => decide (q.length < i)) |>.2
      (fun _ _ => by rw [decide_eq_false hq]; exact Bool.false_ne_true), List.map_nil] at key

/-- **replacement of a sub-fiber** (fiber assignment `f <<= g`, and `clear` as the special case of an
    empty replacement): if the bookkeeping unregisters what was below `q` and registers the fibers of
    the new sub-tree, it stays a mirror — for ANY transformer `F`, as long as the registered sub-tree is
    the one `F` produced there -/
theorem replace_mirror (F : (d : Nat) → Tree κ ν (d + 1) → Tree κ ν (d + 1) × Outcome)
    (d : Nat) (t : Tree κ ν (d + 1)) (R : RankLists κ) (q : List κ) (d' : Nat) (s : Tree κ ν (d' + 1))
    (h : WF (d + 1) t) (hm : Mirror (d + 1) t R) (hloc : locate d t q = some ⟨d', s⟩) :
    Mirror (d + 1) (atPath F d t q).1 (replaceBelowR R q d' (F d' s).1) := by
  obtain ⟨hlen, hperm⟩ := hm
  refine ⟨by simp [replaceBelowR, unregBelow, hlen], fun i hi => ?_⟩
  have hi' : i < R.length := hlen ▸ hi
  unfold replaceBelowR unregBelow
  rw [List.getD_mapIdx _ _ [] (by rw [List.length_map]; exact hi'), List.getD_map R _ [] hi']
  refine List.Perm.trans ?_ (pathsAt_atPath_of_locate F h hloc i).symm
  split
  · exact ((hperm i hi).filter _).append_right _
  · rw [List.append_nil]; exact (hperm i hi).filter _

end
end Ft
