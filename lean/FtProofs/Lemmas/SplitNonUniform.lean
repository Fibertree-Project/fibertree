/-
  Helper lemmas for C08, non-uniform split: the `while i < len(splits)` scan with its
  `search_start` shortcut collects exactly the partitions whose halo-extended interval
  contains the coordinate (for ascending boundaries and ascending coordinates).
  Then `cover_of_lt_ae` (when every window coordinate lies in some partition), and last: the
  boundaries `splitEqual` / `splitUnEqual` choose are ascending, and `iterActive` on an ascending
  fiber is a filter.
-/
import FtProofs.Lemmas.SplitUniform
set_option linter.unusedVariables false
namespace Ft

section nu
variable {π : Type} (S : List Int) (pre post as ae : Int)

/-- the per-boundary test of the scan (everything except the window test) -/
def mem1 (s : Int) (nxt : Option Int) (c : Int) : Bool :=
  !leInf nxt as && decide (s < ae) && !leInf (addInf nxt post) c && decide (s - pre ≤ c)

theorem mem1_iff (s : Int) (nxt : Option Int) (c : Int) :
    mem1 pre post as ae s nxt c = true ↔
      (∀ t, nxt = some t → as < t ∧ c < t + post) ∧ s < ae ∧ s - pre ≤ c := by
  unfold mem1
  cases nxt with
  | none => simp [leInf, addInf]
  | some t =>
    simp only [leInf, addInf, Option.map_some, Bool.and_eq_true, decide_eq_true_eq,
      Bool.not_eq_true', decide_eq_false_iff_not, Option.some.injEq]
    constructor
    · rintro ⟨⟨⟨h1, h2⟩, h3⟩, h4⟩
      exact ⟨fun t' ht' => (by subst ht'; constructor <;> omega), h2, h4⟩
    · rintro ⟨h1, h2, h3⟩
      obtain ⟨a, b⟩ := h1 t rfl
      exact ⟨⟨⟨by omega, h2⟩, by omega⟩, h3⟩

/-- the two tests on which the scan breaks fail for every larger boundary as well -/
theorem mem1_false_of_le {s t : Int} (c : Int) (hst : s ≤ t) (h : ae ≤ s ∨ c < s - pre) (nxt : Option Int) :
    mem1 pre post as ae t nxt c = false :=
  Bool.eq_false_iff.2 fun hm => by
    obtain ⟨_, h1, h2⟩ := (mem1_iff pre post as ae t nxt c).1 hm
    omega

theorem nuMemb_iff (i : Nat) (c : Int) :
    nuMemb S pre post as ae i c = true ↔
      ∃ s, S[i]? = some s ∧ as - pre ≤ c ∧ c < ae + post ∧
        (∀ t, S[i + 1]? = some t → as < t ∧ c < t + post) ∧ s < ae ∧ s - pre ≤ c := by
  unfold nuMemb
  cases S[i]? with
  | none => simp
  | some s =>
    -- the tests of `nuMemb` are the window test and those of `mem1`, in another order
    have hb : (inWindow as ae pre post c && !leInf S[i + 1]? as && decide (s < ae) &&
        decide (s - pre ≤ c) && !leInf (addInf S[i + 1]? post) c) =
        (inWindow as ae pre post c && mem1 pre post as ae s S[i + 1]? c) := by
      rw [Bool.and_right_comm _ (decide (s - pre ≤ c))]
      simp only [mem1, Bool.and_assoc]
    simp only [hb, Bool.and_eq_true, inWindow_iff, mem1_iff, Option.some.injEq, exists_eq_left', and_assoc]

theorem nuMemb_false_of_none (i : Nat) (c : Int) (h : S[i]? = none) :
    nuMemb S pre post as ae i c = false := by
  unfold nuMemb; rw [h]

theorem last_boundary (c : Int) (h0 : ∃ (i : Nat) (s : Int), S[i]? = some s ∧ s - pre ≤ c) :
    ∃ (i : Nat) (s : Int), S[i]? = some s ∧ s - pre ≤ c ∧ ∀ t, S[i + 1]? = some t → c < t - pre := by
  induction S with
  | nil => obtain ⟨i, s, h, _⟩ := h0; cases h
  | cons a r ih =>
    by_cases hr : ∃ (i : Nat) (s : Int), r[i]? = some s ∧ s - pre ≤ c
    · obtain ⟨i, s, hs, hc, hn⟩ := ih hr
      exact ⟨i + 1, s, hs, hc, hn⟩
    · obtain ⟨i, s, hs, hc⟩ := h0
      cases i with
      | succ i => exact absurd ⟨i, s, hs, hc⟩ hr
      | zero =>
        refine ⟨0, s, hs, hc, fun t ht => Int.lt_of_not_ge fun hle => ?_⟩
        exact hr ⟨0, t, ht, hle⟩

theorem nuInner_mem (hS : S.Pairwise (· < ·)) (c : Int) :
    ∀ (k i : Nat), S.length - i = k → ∀ j,
      (j ∈ nuInner as ae pre post c i (S.drop i) ↔
        i ≤ j ∧ ∃ t, S[j]? = some t ∧ mem1 pre post as ae t S[j + 1]? c = true) := by
  intro k
  induction k with
  | zero =>
    intro i hk j
    have hi : S.length ≤ i := Nat.le_of_sub_eq_zero hk
    rw [List.drop_eq_nil_of_le hi]
    simp only [nuInner, List.not_mem_nil, false_iff]
    rintro ⟨hij, t, ht, _⟩
    rw [List.getElem?_eq_none (Nat.le_trans hi hij)] at ht; cases ht
  | succ k ih =>
    intro i hk j
    have hi : i < S.length := Nat.lt_of_sub_eq_succ hk
    have hsi : S[i]? = some S[i] := List.getElem?_eq_getElem hi
    rw [List.drop_eq_getElem_cons hi]
    unfold nuInner
    rw [List.head?_drop]
    have IH := ih (i + 1) (by rw [Nat.sub_add_eq, hk]; rfl) j
    have hge : ∀ j t, i ≤ j → S[j]? = some t → S[i] ≤ t :=
      fun j t hij ht => sorted_getElem?_le S hS hij hsi ht
    -- a position skipped by `continue` does not satisfy the test; the others are scanned next
    have cont : (mem1 pre post as ae S[i] S[i + 1]? c = false) →
        (j ∈ nuInner as ae pre post c (i + 1) (S.drop (i + 1)) ↔
          i ≤ j ∧ ∃ t, S[j]? = some t ∧ mem1 pre post as ae t S[j + 1]? c = true) := by
      intro hno
      rw [IH]
      constructor
      · rintro ⟨h1, h2⟩; exact ⟨Nat.le_of_succ_le h1, h2⟩
      · rintro ⟨h1, t, ht, hm⟩
        refine ⟨Nat.lt_of_le_of_ne h1 fun e => ?_, t, ht, hm⟩
        subst e
        rw [hsi] at ht; cases ht
        rw [hno] at hm; cases hm
    -- after a `break` no later boundary satisfies the test either
    have stop : (∀ t, S[i] ≤ t → ∀ nxt, mem1 pre post as ae t nxt c = false) →
        (j ∈ ([] : List Nat) ↔
          i ≤ j ∧ ∃ t, S[j]? = some t ∧ mem1 pre post as ae t S[j + 1]? c = true) := by
      intro hno
      simp only [List.not_mem_nil, false_iff]
      rintro ⟨hij, t, ht, hm⟩
      rw [hno t (hge j t hij ht)] at hm; cases hm
    by_cases hA : leInf S[i + 1]? as = true
    · rw [if_pos hA]
      exact cont (by simp only [mem1, hA, Bool.not_true, Bool.false_and])
    · rw [if_neg hA]
      by_cases hB : ae ≤ S[i]
      · rw [if_pos hB]
        exact stop fun t ht nxt => mem1_false_of_le pre post as ae c ht (Or.inl hB) nxt
      · rw [if_neg hB]
        by_cases hC : leInf (addInf S[i + 1]? post) c = true
        · rw [if_pos hC]
          exact cont (by simp only [mem1, hC, Bool.not_true, Bool.and_false, Bool.false_and])
        · rw [if_neg hC]
          by_cases hD : c < S[i] - pre
          · rw [if_pos hD]
            exact stop fun t ht nxt => mem1_false_of_le pre post as ae c ht (Or.inr hD) nxt
          · rw [if_neg hD, List.mem_cons, IH]
            have hmem : mem1 pre post as ae S[i] S[i + 1]? c = true := by
              simp only [mem1, Bool.and_eq_true, decide_eq_true_eq, Bool.not_eq_true']
              exact ⟨⟨⟨by simpa using hA, Int.not_le.1 hB⟩, by simpa using hC⟩, Int.not_lt.1 hD⟩
            constructor
            · rintro (rfl | ⟨h1, h2⟩)
              · exact ⟨Nat.le_refl _, S[j], hsi, hmem⟩
              · exact ⟨Nat.le_of_succ_le h1, h2⟩
            · rintro ⟨h1, t, ht, hm⟩
              rcases Nat.lt_or_eq_of_le h1 with h | h
              · exact Or.inr ⟨h, t, ht, hm⟩
              · exact Or.inl h.symm

/-- the scan reports positions from `i` on, each at most once, in ascending order -/
theorem nuInner_sublist (c : Int) (T : List Int) (i : Nat) :
    (nuInner as ae pre post c i T).Sublist (List.range' i T.length) := by
  fun_induction nuInner as ae pre post c i T with
  | case1 => exact List.Sublist.slnil
  | case2 i s rest _ ih => exact ih.cons _
  | case3 => exact List.nil_sublist _
  | case4 i s rest _ _ _ ih => exact ih.cons _
  | case5 => exact List.nil_sublist _
  | case6 i s rest _ _ _ _ ih => exact ih.cons_cons _

theorem foldl_modify_getElem? (x : Int × π) :
    ∀ (inds : List Nat) (bk : List (Fib Int π)), inds.Nodup → ∀ j,
      (inds.foldl (fun b i => b.modify i (· ++ [x])) bk)[j]? =
        (bk[j]?).map (fun b => if j ∈ inds then b ++ [x] else b) := by
  intro inds
  induction inds with
  | nil => intro bk _ j; simp
  | cons i r ih =>
    intro bk hnd j
    have hnd' := List.nodup_cons.1 hnd
    simp only [List.foldl_cons]
    rw [ih _ hnd'.2, List.getElem?_modify]
    cases bk[j]? with
    | none => rfl
    | some a =>
      simp only [Functor.map, Option.map_some, List.mem_cons]
      by_cases hij : i = j
      · -- bucket `i` gets `x` now and, as `i ∉ r`, was left alone by the fold over `r`
        subst hij
        simp [hnd'.1]
      · -- any other bucket is not touched now: only `j ∈ r` decides
        have : ¬ j = i := fun e => hij e.symm
        simp [hij, this]

theorem foldl_modify_length (x : Int × π) :
    ∀ (inds : List Nat) (bk : List (Fib Int π)),
      (inds.foldl (fun b i => b.modify i (· ++ [x])) bk).length = bk.length := by
  intro inds
  induction inds with
  | nil => intro bk; rfl
  | cons i r ih => intro bk; simp only [List.foldl_cons]; rw [ih]; exact List.length_modify _ _ _

/-- a partition left of a partition containing `c`, and not containing `c` itself, contains no
    later coordinate either -/
theorem dead_of_lt_member (hS : S.Pairwise (· < ·)) {j m : Nat} {c : Int} (hjm : j < m)
    (hm : nuMemb S pre post as ae m c = true) (hj : nuMemb S pre post as ae j c = false) :
    ∀ c', c ≤ c' → nuMemb S pre post as ae j c' = false := by
  intro c' hc'
  obtain ⟨sm, hsm, w1, w2, _, _, m3⟩ := (nuMemb_iff S pre post as ae m c).1 hm
  obtain ⟨t, ht⟩ := getElem?_of_le S (Nat.succ_le_of_lt hjm) hsm
  have htm : t ≤ sm := sorted_getElem?_le S hS (Nat.succ_le_of_lt hjm) ht hsm
  rw [← Bool.not_eq_true] at hj ⊢
  intro hres
  obtain ⟨s, hs, _, _, v3, v4, _⟩ := (nuMemb_iff S pre post as ae j c').1 hres
  obtain ⟨v3a, v3b⟩ := v3 t ht
  have hst : s < t := sorted_getElem?_lt S hS (Nat.lt_succ_self j) hs ht
  -- then `c` lies in partition `j` already: `s < t ≤ S[m] ≤ c + pre` and `c ≤ c' < t + post`
  apply hj
  rw [nuMemb_iff]
  refine ⟨s, hs, w1, w2, fun t' ht' => ?_, v4, by omega⟩
  rw [ht] at ht'; cases ht'
  exact ⟨v3a, by omega⟩

theorem filter_snoc_nuMemb (done : Fib Int π) (x : Int × π) (j : Nat) :
    (done ++ [x]).filter (fun e => nuMemb S pre post as ae j e.1) =
      done.filter (fun e => nuMemb S pre post as ae j e.1) ++
        (if nuMemb S pre post as ae j x.1 = true then [x] else []) := by
  rw [List.filter_append]
  congr 1
  by_cases h : nuMemb S pre post as ae j x.1 = true <;> simp [h]

theorem nuMemb_window {i : Nat} {c : Int} (h : nuMemb S pre post as ae i c = true) :
    as - pre ≤ c ∧ c < ae + post := by
  obtain ⟨_, _, w1, w2, _⟩ := (nuMemb_iff S pre post as ae i c).1 h
  exact ⟨w1, w2⟩

theorem mem_nuInner_iff (hS : S.Pairwise (· < ·)) (c : Int) (ss : Nat)
    (hdead : ∀ j, j < ss → nuMemb S pre post as ae j c = false)
    (hw1 : as - pre ≤ c) (hw2 : c < ae + post) (j : Nat) :
    j ∈ nuInner as ae pre post c ss (S.drop ss) ↔ nuMemb S pre post as ae j c = true := by
  rw [nuInner_mem S pre post as ae hS c (S.length - ss) ss rfl j, nuMemb_iff]
  constructor
  · rintro ⟨_, t, ht, hm⟩
    obtain ⟨a, b, d⟩ := (mem1_iff pre post as ae t _ c).1 hm
    exact ⟨t, ht, hw1, hw2, a, b, d⟩
  · rintro ⟨t, ht, _, _, a, b, d⟩
    refine ⟨Nat.le_of_not_lt fun h => ?_, t, ht, (mem1_iff pre post as ae t _ c).2 ⟨a, b, d⟩⟩
    have := hdead j h
    rw [(nuMemb_iff S pre post as ae j c).2 ⟨t, ht, hw1, hw2, a, b, d⟩] at this
    cases this

/-- a coordinate before the pre-halo start of boundary `ss`, and in no partition left of it, is in none -/
theorem nuMemb_false_of_lt_start (hS : S.Pairwise (· < ·)) {ss : Nat} {c : Int}
    (hdx : ∀ j, j < ss → nuMemb S pre post as ae j c = false)
    (h : ∀ s, S[ss]? = some s → c < s - pre) (j : Nat) : nuMemb S pre post as ae j c = false := by
  rcases Nat.lt_or_ge j ss with hj | hj
  · exact hdx j hj
  · refine Bool.eq_false_iff.2 fun hm => ?_
    obtain ⟨t, ht, _, _, _, _, w⟩ := (nuMemb_iff S pre post as ae j c).1 hm
    obtain ⟨s, hs⟩ := getElem?_of_le S hj ht
    have := sorted_getElem?_le S hS hj hs ht
    have := h s hs
    omega

/-- one iteration of the `for c, p in self.fiber` loop: beyond the window it stops; otherwise it goes on
    with `x` appended to exactly the buckets of the partitions containing `x.1`, and with a
    `search_start` that is still sound for every later coordinate -/
theorem nuLoop_cons (hS : S.Pairwise (· < ·)) (x : Int × π) (rest : Fib Int π) (bk : List (Fib Int π))
    (ss : Nat) (hdx : ∀ j, j < ss → nuMemb S pre post as ae j x.1 = false) :
    (ae + post ≤ x.1 ∧ nuLoop S as ae pre post (x :: rest) bk ss = some bk) ∨
    ∃ bk' ss', nuLoop S as ae pre post (x :: rest) bk ss = nuLoop S as ae pre post rest bk' ss' ∧
      bk'.length = bk.length ∧
      (∀ j, bk'[j]? =
        (bk[j]?).map (fun b => if nuMemb S pre post as ae j x.1 = true then b ++ [x] else b)) ∧
      ∀ c', x.1 ≤ c' → (∀ j, j < ss → nuMemb S pre post as ae j c' = false) →
        ∀ j, j < ss' → nuMemb S pre post as ae j c' = false := by
  -- an element that belongs to no partition leaves everything as it is
  have skip : (∀ j, nuMemb S pre post as ae j x.1 = false) → ∀ j, bk[j]? =
      (bk[j]?).map (fun b => if nuMemb S pre post as ae j x.1 = true then b ++ [x] else b) := by
    intro hno j
    simp only [hno j, Bool.false_eq_true, if_false, Option.map_id']
  rw [nuLoop]
  by_cases h1 : x.1 < as - pre
  · rw [if_pos h1]
    exact Or.inr ⟨bk, ss, rfl, rfl, skip fun j => Bool.eq_false_iff.2 fun h =>
      Int.not_le.2 h1 (nuMemb_window S pre post as ae h).1, fun _ _ h => h⟩
  rw [if_neg h1]
  by_cases h2 : ae + post ≤ x.1
  · rw [if_pos h2]; exact Or.inl ⟨h2, rfl⟩
  rw [if_neg h2]
  refine Or.inr ?_
  cases hss : S[ss]? with
  | none =>
    simp only [if_true]
    exact ⟨bk, ss, rfl, rfl, skip (nuMemb_false_of_lt_start S pre post as ae hS hdx
      fun s hs => by rw [hss] at hs; cases hs), fun _ _ h => h⟩
  | some s =>
    by_cases h3 : x.1 < s - pre
    · simp only [h3, decide_true, if_true]
      exact ⟨bk, ss, rfl, rfl, skip (nuMemb_false_of_lt_start S pre post as ae hS hdx
        fun s' hs => by rw [hss] at hs; cases hs; exact h3), fun _ _ h => h⟩
    · simp only [h3, decide_false, Bool.false_eq_true, if_false]
      have hinds := mem_nuInner_iff S pre post as ae hS x.1 ss hdx (Int.not_lt.1 h1) (Int.not_le.1 h2)
      have hnd := (nuInner_sublist pre post as ae x.1 (S.drop ss) ss).nodup (List.nodup_range' ..)
      generalize nuInner as ae pre post x.1 ss (S.drop ss) = inds at hinds hnd
      have hrows : ∀ j, (inds.foldl (fun b i => b.modify i (· ++ [x])) bk)[j]? =
          (bk[j]?).map (fun b => if nuMemb S pre post as ae j x.1 = true then b ++ [x] else b) := by
        intro j
        rw [foldl_modify_getElem? x inds bk hnd j]
        simp only [hinds j]
      -- an element that falls in no partition does not move the search (`if inds:`)
      by_cases hne : inds = []
      · subst hne
        simp only [minOf, List.foldl_nil]
        exact ⟨bk, ss, rfl, rfl, skip fun j => Bool.eq_false_iff.2 fun hh => (nomatch (hinds j).2 hh),
          fun _ _ h => h⟩
      obtain ⟨m, hm⟩ := minOf_isSome hne
      simp only [hm]
      refine ⟨_, m, rfl, foldl_modify_length x inds bk, hrows, fun c' hc' _ j hj => ?_⟩
      -- `j` lies left of the first partition containing `x`
      have hjx : nuMemb S pre post as ae j x.1 = false :=
        Bool.eq_false_iff.2 fun hh => Nat.not_le.2 hj (minOf_le hm j ((hinds j).2 hh))
      exact dead_of_lt_member S pre post as ae hS hj ((hinds m).1 (minOf_mem hm)) hjx c' hc'

theorem nuLoop_spec (hS : S.Pairwise (· < ·)) :
    ∀ (rest done : Fib Int π) (bk : List (Fib Int π)) (ss : Nat),
      Sorted (done ++ rest) → bk.length = S.length →
      (∀ j, j < S.length → bk[j]? = some (done.filter (fun e => nuMemb S pre post as ae j e.1))) →
      (∀ y ∈ rest, ∀ j, j < ss → nuMemb S pre post as ae j y.1 = false) →
      ∃ bk', nuLoop S as ae pre post rest bk ss = some bk' ∧ bk'.length = S.length ∧
        ∀ j, j < S.length →
          bk'[j]? = some ((done ++ rest).filter (fun e => nuMemb S pre post as ae j e.1)) := by
  intro rest
  induction rest with
  | nil =>
    intro done bk ss _ hlen hbk _
    exact ⟨bk, rfl, hlen, by simpa using hbk⟩
  | cons x rest ih =>
    intro done bk ss hsorted hlen hbk hdead
    have hle := Sorted.head_le (List.pairwise_append.1 hsorted).2.1
    rcases nuLoop_cons S pre post as ae hS x rest bk ss (hdead x (List.mem_cons_self ..)) with
      ⟨h2, e⟩ | ⟨bk', ss', e, hl, hrows, hdead'⟩
    · -- `x` and everything after it lie beyond the window
      refine ⟨bk, e, hlen, fun j hj => ?_⟩
      have : (x :: rest).filter (fun e => nuMemb S pre post as ae j e.1) = [] :=
        List.filter_eq_nil_iff.2 fun y hy hm =>
          Int.not_lt.2 (Int.le_trans h2 (hle y hy)) (nuMemb_window S pre post as ae hm).2
      rw [List.filter_append, this, List.append_nil]
      exact hbk j hj
    · rw [e, show done ++ x :: rest = (done ++ [x]) ++ rest by simp [List.append_assoc]]
      refine ih (done ++ [x]) bk' ss' (by simpa [List.append_assoc] using hsorted) (hl.trans hlen)
        (fun j hj => ?_)
        (fun y hy => hdead' y.1 (hle y (List.mem_cons_of_mem _ hy)) (hdead y (List.mem_cons_of_mem _ hy)))
      rw [hrows j, hbk j hj, filter_snoc_nuMemb, Option.map_some]
      by_cases hm : nuMemb S pre post as ae j x.1 = true
      · rw [if_pos hm, if_pos hm]
      · rw [if_neg hm, if_neg hm, List.append_nil]

end nu
section assemble
variable {π : Type} (S : List Int) (pre post as ae : Int)

/-- with all boundaries below the active end, every coordinate of the window at or after the first
    boundary's pre-halo start lies in some partition -/
theorem cover_of_lt_ae (hS : S.Pairwise (· < ·)) (hlt : ∀ s ∈ S, s < ae) (hpre : 0 ≤ pre) (hpost : 0 ≤ post)
    (c : Int) (hw : inWindow as ae pre post c = true)
    (h0 : ∃ s0, S[0]? = some s0 ∧ s0 - pre ≤ c) : ∃ i, nuMemb S pre post as ae i c = true := by
  rw [inWindow_iff] at hw
  obtain ⟨s0, hs0, hc0⟩ := h0
  obtain ⟨i, s, hs, hc, hnext⟩ := last_boundary S pre c ⟨0, s0, hs0, hc0⟩
  refine ⟨i, (nuMemb_iff S pre post as ae i c).2
    ⟨s, hs, hw.1, hw.2, fun t ht => ?_, hlt s (List.mem_of_getElem? hs), hc⟩⟩
  have := hnext t ht
  constructor <;> omega

end assemble

section bounds
variable {π : Type}

/-- every boundary the position-space splits can choose: the active start for the first active
    element, the element's own coordinate for every other -/
def boundsAll (as : Int) (act : Fib Int π) : List Int :=
  act.zipIdx.map (fun ei => if ei.2 = 0 then as else ei.1.1)

theorem equalBounds_sublist (step as : Int) (act : Fib Int π) :
    (equalBounds step as act).Sublist (boundsAll as act) := by
  unfold equalBounds boundsAll
  apply filterMap_sublist_map
  intro a b h
  by_cases h0 : a.2 = 0
  · simp only [h0, if_true, Option.some.injEq] at h ⊢; exact h.symm
  · simp only [h0, if_false] at h ⊢
    split at h
    · exact (Option.some.inj h).symm
    · cases h

theorem unequalLoop_sublist (sizes : List Int) (as : Int) (l : List ((Int × π) × Nat)) (j base : Nat) :
    (unequalLoop sizes as l j base).Sublist (l.map (fun ei => if ei.2 = 0 then as else ei.1.1)) := by
  fun_induction unequalLoop sizes as l j base with
  | case1 => exact List.Sublist.slnil
  | case2 ei rest j base h0 ih => rw [List.map_cons, if_pos h0]; exact ih.cons_cons _
  | case3 => exact List.nil_sublist _
  | case4 ei rest j base h0 _ _ ih => rw [List.map_cons, if_neg h0]; exact ih.cons_cons _
  | case5 ei rest j base _ _ _ ih => rw [List.map_cons]; exact ih.cons _

theorem boundsAll_pairwise (as : Int) (act : Fib Int π) (hs : Sorted act)
    (hge : ∀ e ∈ act, as ≤ e.1) : (boundsAll as act).Pairwise (· < ·) := by
  rw [List.pairwise_iff_getElem]
  intro i j hi hj hij
  have hi' : i < act.length := by simpa [boundsAll] using hi
  have hj' : j < act.length := by simpa [boundsAll] using hj
  have hlt : act[i].1 < act[j].1 := (List.pairwise_iff_getElem.1 hs) i j hi' hj' hij
  have hj0 : ¬ j = 0 := by omega
  simp only [boundsAll, List.getElem_map, List.getElem_zipIdx, Nat.zero_add, hj0, if_false]
  split
  · have := hge act[i] (List.getElem_mem hi'); omega
  · exact hlt

theorem mem_iterActive (as ae : Int) (elems : Fib Int π) (e : Int × π)
    (h : e ∈ iterActive as ae elems) : e ∈ elems ∧ as ≤ e.1 ∧ e.1 < ae := by
  unfold iterActive at h
  rw [List.mem_filter] at h
  have h1 := mem_takeWhile_imp _ _ _ h.1
  have h2 := (List.takeWhile_sublist _).subset h.1
  simp only [decide_eq_true_eq] at h h1
  exact ⟨h2, h.2, h1⟩

theorem iterActive_sorted (as ae : Int) (elems : Fib Int π) (hs : Sorted elems) :
    Sorted (iterActive as ae elems) := by
  unfold iterActive Sorted
  exact List.Pairwise.sublist ((List.filter_sublist).trans (List.takeWhile_sublist _)) hs

theorem takeWhile_eq_filter_sorted (ae : Int) (l : Fib Int π) (hs : Sorted l) :
    l.takeWhile (fun e => decide (e.1 < ae)) = l.filter (fun e => decide (e.1 < ae)) := by
  induction l with
  | nil => rfl
  | cons x r ih =>
    by_cases h : x.1 < ae
    · simp only [List.takeWhile_cons, List.filter_cons, h, decide_true, if_true]
      rw [ih hs.tail]
    · simp only [List.takeWhile_cons, List.filter_cons, h, decide_false, Bool.false_eq_true, if_false]
      symm
      rw [List.filter_eq_nil_iff]
      intro y hy
      have := hs.head_lt y hy
      simp only [decide_eq_true_eq]; omega

theorem iterActive_eq_filter (as ae : Int) (elems : Fib Int π) (hs : Sorted elems) :
    iterActive as ae elems = elems.filter (fun e => decide (as ≤ e.1) && decide (e.1 < ae)) := by
  unfold iterActive
  rw [takeWhile_eq_filter_sorted ae elems hs, List.filter_filter]

theorem bounds_pairwise (as ae : Int) (elems : Fib Int π) (hs : Sorted elems)
    (B : List Int) (hB : B.Sublist (boundsAll as (iterActive as ae elems))) : B.Pairwise (· < ·) :=
  List.Pairwise.sublist hB (boundsAll_pairwise as _ (iterActive_sorted as ae elems hs)
    (fun e he => (mem_iterActive as ae elems e he).2.1))

end bounds

end Ft
