/-
  Helper lemmas for C17: `combine` (stable merge), `filterTrace`, `nextUse`.
-/
import FtProofs.Lemmas.TrafficBasic
namespace Ft
namespace Traffic

def StampSorted (l : List Row) : Prop := l.Pairwise (fun a b => lexLe a.stamp b.stamp = true)

@[simp] theorem untag_tag (r : Row) (w : Bool) : (r.tag w).untag = r := rfl
@[simp] theorem tag_isWrite (r : Row) (w : Bool) : (r.tag w).isWrite = w := rfl
@[simp] theorem tag_stamp (r : Row) (w : Bool) : (r.tag w).stamp = r.stamp := rfl

theorem filter_map_tag_pos (l : List Row) (w : Bool) {P : CRow → Bool} (h : ∀ r : Row, P (r.tag w) = true) :
    (l.map (·.tag w)).filter P = l.map (·.tag w) := by
  apply List.filter_eq_self.2; intro x hx
  obtain ⟨y, _, rfl⟩ := List.mem_map.1 hx; exact h y

theorem filter_map_tag_neg (l : List Row) (w : Bool) {P : CRow → Bool} (h : ∀ r : Row, P (r.tag w) = false) :
    (l.map (·.tag w)).filter P = [] := by
  apply List.filter_eq_nil_iff.2; intro x hx
  obtain ⟨y, _, rfl⟩ := List.mem_map.1 hx; rw [h y]; exact Bool.false_ne_true

theorem map_untag_map_tag (l : List Row) (w : Bool) : (l.map (·.tag w)).map CRow.untag = l := by
  induction l with
  | nil => rfl
  | cons a r ih => simp [ih]

theorem combine_reads (rs ws : List Row) :
    ((combine rs ws).filter (fun r => !r.isWrite)).map CRow.untag = rs := by
  fun_induction combine rs ws with
  | case1 ws => rw [filter_map_tag_neg _ _ (fun _ => rfl)]; rfl
  | case2 r rs => rw [filter_map_tag_pos _ _ (fun _ => rfl), map_untag_map_tag]
  | case3 r rs w ws h ih => simpa [List.filter_cons] using ih
  | case4 r rs w ws h ih => simp [ih]

theorem combine_writes (rs ws : List Row) :
    ((combine rs ws).filter (fun r => r.isWrite)).map CRow.untag = ws := by
  fun_induction combine rs ws with
  | case1 ws => rw [filter_map_tag_pos _ _ (fun _ => rfl), map_untag_map_tag]
  | case2 r rs => rw [filter_map_tag_neg _ _ (fun _ => rfl)]; rfl
  | case3 r rs w ws h ih => simp [List.filter_cons, ih]
  | case4 r rs w ws h ih => simpa [List.filter_cons] using ih

theorem mem_combine {rs ws : List Row} {x : CRow} (hx : x ∈ combine rs ws) :
    (x.isWrite = false ∧ x.untag ∈ rs) ∨ (x.isWrite = true ∧ x.untag ∈ ws) := by
  fun_induction combine rs ws with
  | case1 ws =>
    obtain ⟨y, hy, rfl⟩ := List.mem_map.1 hx; exact Or.inr ⟨rfl, hy⟩
  | case2 r rs =>
    obtain ⟨y, hy, rfl⟩ := List.mem_map.1 hx; exact Or.inl ⟨rfl, hy⟩
  | case3 r rs w ws h ih =>
    rcases List.mem_cons.1 hx with rfl | hx
    · exact Or.inr ⟨rfl, List.mem_cons_self⟩
    · rcases ih hx with h1 | h1
      · exact Or.inl h1
      · exact Or.inr ⟨h1.1, List.mem_cons_of_mem _ h1.2⟩
  | case4 r rs w ws h ih =>
    rcases List.mem_cons.1 hx with rfl | hx
    · exact Or.inl ⟨rfl, List.mem_cons_self⟩
    · rcases ih hx with h1 | h1
      · exact Or.inl ⟨h1.1, List.mem_cons_of_mem _ h1.2⟩
      · exact Or.inr h1

theorem untag_stamp (x : CRow) : x.untag.stamp = x.stamp := rfl

theorem eq_tag_of_untag {y : CRow} {r : Row} {b : Bool} (h1 : y.untag = r) (h2 : y.isWrite = b) :
    y = r.tag b := by
  cases y; subst h1; subst h2; rfl

/-- a row of a file shows up in a list whose projection on that label (`P` selects the label `b`) is
    the file -/
theorem mem_of_proj {out : List CRow} {P : CRow → Bool} {b : Bool} (hP : ∀ y, P y = true → y.isWrite = b)
    {l : List Row} {r : Row} (h : (out.filter P).map CRow.untag = l) (hr : r ∈ l) : r.tag b ∈ out := by
  rw [← h] at hr
  obtain ⟨y, hy, hyr⟩ := List.mem_map.1 hr
  rw [← eq_tag_of_untag hyr (hP y (List.mem_filter.1 hy).2)]; exact (List.mem_filter.1 hy).1

/-- the merge takes the read when no write is pending or the pending write is not strictly earlier -/
theorem combine_read_first {r : Row} {rs writes : List Row}
    (h : ∀ w ∈ writes.head?, lexLt w.stamp r.stamp = false) :
    combine (r :: rs) writes = r.tag false :: combine rs writes := by
  cases writes with
  | nil => cases rs <;> simp [combine]
  | cons w ws => rw [combine, if_neg (by rw [h w rfl]; exact Bool.false_ne_true)]

/-- the merge takes the write when no read is pending or the write is strictly earlier than the
    pending read -/
theorem combine_write_first {w : Row} {ws reads : List Row}
    (h : ∀ r ∈ reads.head?, lexLt w.stamp r.stamp = true) :
    combine reads (w :: ws) = w.tag true :: combine reads ws := by
  cases reads with
  | nil => simp [combine]
  | cons r rs => rw [combine, if_pos (h r rfl)]

/-- what `readsNotOvertaken` says about a read at the head: no later write is strictly earlier -/
theorem readsNotOvertaken_head {x : CRow} {out : List CRow} (h : readsNotOvertaken (x :: out) = true)
    (hx : x.isWrite = false) {y : CRow} (hy : y ∈ out) (hyw : y.isWrite = true) :
    lexLt y.stamp x.stamp = false := by
  simp only [readsNotOvertaken, Bool.and_eq_true, Bool.or_eq_true, List.all_eq_true, hx,
    Bool.false_eq_true, false_or] at h
  rcases h.1 y hy with hc | hc
  · rw [hyw] at hc; cases hc
  · simpa [lexLe] using hc

/-- what `tiesReadFirst` says about a write at the head: every later read is strictly later -/
theorem tiesReadFirst_head {x : CRow} {out : List CRow} (h : tiesReadFirst (x :: out) = true)
    (hx : x.isWrite = true) {y : CRow} (hy : y ∈ out) (hyr : y.isWrite = false) :
    lexLt x.stamp y.stamp = true := by
  simp only [tiesReadFirst, Bool.and_eq_true, Bool.or_eq_true, List.all_eq_true, hx,
    Bool.not_true, Bool.false_eq_true, false_or] at h
  rcases h.1 y hy with hc | hc
  · rw [hyr] at hc; cases hc
  · exact hc

theorem combine_tiesReadFirst (rs ws : List Row) (hr : StampSorted rs) :
    tiesReadFirst (combine rs ws) = true := by
  fun_induction combine rs ws with
  | case1 ws =>
    induction ws with
    | nil => rfl
    | cons a r ih =>
      simp only [List.map_cons, tiesReadFirst, Bool.and_eq_true, ih, and_true]
      simp only [tag_isWrite, Bool.not_true, Bool.false_or, List.all_eq_true]
      intro y hy; obtain ⟨z, _, rfl⟩ := List.mem_map.1 hy; simp
  | case2 r rs =>
    generalize r :: rs = l
    induction l with
    | nil => rfl
    | cons a r ih => simp [tiesReadFirst, ih]
  | case3 r rs w ws h ih =>
    simp only [tiesReadFirst, Bool.and_eq_true, ih hr, and_true, tag_isWrite, Bool.not_true,
      Bool.false_or, List.all_eq_true, Bool.or_eq_true, tag_stamp]
    intro y hy
    rcases mem_combine hy with ⟨hw, hm⟩ | ⟨hw, _⟩
    · right
      rw [← untag_stamp y]
      rcases List.mem_cons.1 hm with e | hm
      · rw [e]; exact h
      · exact lexLt_of_lt_of_le h ((List.pairwise_cons.1 hr).1 _ hm)
    · left; exact hw
  | case4 r rs w ws h ih =>
    simp [tiesReadFirst, ih (List.pairwise_cons.1 hr).2]

theorem combine_readsNotOvertaken (rs ws : List Row) (hw : StampSorted ws) :
    readsNotOvertaken (combine rs ws) = true := by
  fun_induction combine rs ws with
  | case1 ws =>
    generalize ws = l
    induction l with
    | nil => rfl
    | cons a r ih => simp [readsNotOvertaken, ih]
  | case2 r rs =>
    generalize r :: rs = l
    induction l with
    | nil => rfl
    | cons a r ih =>
      simp only [List.map_cons, readsNotOvertaken, Bool.and_eq_true, ih, and_true]
      simp only [tag_isWrite, Bool.false_or, List.all_eq_true]
      intro y hy; obtain ⟨z, _, rfl⟩ := List.mem_map.1 hy; simp
  | case3 r rs w ws h ih =>
    simp [readsNotOvertaken, ih (List.pairwise_cons.1 hw).2]
  | case4 r rs w ws h ih =>
    simp only [readsNotOvertaken, Bool.and_eq_true, ih hw, and_true, tag_isWrite,
      Bool.false_or, List.all_eq_true, Bool.or_eq_true, tag_stamp, Bool.not_eq_true']
    intro y hy
    rcases mem_combine hy with ⟨hwf, _⟩ | ⟨hwt, hm⟩
    · left; exact hwf
    · right
      rw [← untag_stamp y]
      have hnot : lexLt w.stamp r.stamp = false := by simpa using h
      rcases List.mem_cons.1 hm with e | hm
      · rw [e]; exact lexLe_of_not_lt hnot
      · exact lexLe_trans (lexLe_of_not_lt hnot) ((List.pairwise_cons.1 hw).1 _ hm)

/-! `filterSpec` follows the three moves of the two-pointer scan (input points strictly increasing and
    of length `n`, filter points cut to `n` non-decreasing) -/

/-- the input point equals the filter point: it is kept, and no later input point matches this
    filter row -/
theorem filterSpec_keep {n : Nat} {i f : Row} {is fs : List Row}
    (hlen : ∀ x ∈ i :: is, x.coords.length = n)
    (hin : (i :: is).Pairwise (fun a b => lexLt a.coords b.coords = true))
    (heq : i.coords = f.coords.take i.coords.length) :
    filterSpec (i :: is) (f :: fs) = i :: filterSpec is fs := by
  have hi := hlen i List.mem_cons_self
  have hkeep : (f :: fs).any (fun g => decide (g.coords.take i.coords.length = i.coords)) = true := by
    simp only [List.any_cons, Bool.or_eq_true, decide_eq_true_eq]; left; exact heq.symm
  simp only [filterSpec, List.filter_cons, hkeep, if_true]
  congr 1
  apply List.filter_congr
  intro x hx
  have hxl := hlen x (List.mem_cons_of_mem _ hx)
  have hlt := (List.pairwise_cons.1 hin).1 x hx
  have : ¬ (f.coords.take x.coords.length = x.coords) := by
    intro e
    have : i.coords = x.coords := by
      rw [← e, hxl, ← hi]; exact heq
    exact lexLt_ne hlt this
  simp [this]

/-- the input point is below the filter point, hence below all filter points: it is dropped -/
theorem filterSpec_skip_input {n : Nat} {i f : Row} {is fs : List Row}
    (hi : i.coords.length = n)
    (hfil : (f :: fs).Pairwise (fun a b => lexLe (a.coords.take n) (b.coords.take n) = true))
    (hlt : lexLt i.coords (f.coords.take i.coords.length) = true) :
    filterSpec (i :: is) (f :: fs) = filterSpec is (f :: fs) := by
  have hdrop : (f :: fs).any (fun g => decide (g.coords.take i.coords.length = i.coords)) = false := by
    rw [List.any_eq_false]
    intro g hg
    simp only [decide_eq_true_eq]
    intro e
    have hfg : lexLe (f.coords.take n) (g.coords.take n) = true := by
      rcases List.mem_cons.1 hg with rfl | hg
      · exact lexLe_refl _
      · exact (List.pairwise_cons.1 hfil).1 g hg
    have h1 : lexLt i.coords (g.coords.take n) = true := by
      apply lexLt_of_lt_of_le _ hfg
      rw [← hi]; exact hlt
    rw [← hi, e, lexLt_irrefl] at h1; cases h1
  simp only [filterSpec, List.filter_cons, hdrop, Bool.false_eq_true, if_false]

/-- the filter point is below the input point, hence below all remaining input points: the filter
    row matches none of them -/
theorem filterSpec_skip_filter {n : Nat} {i f : Row} {is fs : List Row}
    (hlen : ∀ x ∈ i :: is, x.coords.length = n)
    (hin : (i :: is).Pairwise (fun a b => lexLt a.coords b.coords = true))
    (hne : ¬ i.coords = f.coords.take i.coords.length)
    (hnlt : ¬ lexLt i.coords (f.coords.take i.coords.length) = true) :
    filterSpec (i :: is) (f :: fs) = filterSpec (i :: is) fs := by
  have hi := hlen i List.mem_cons_self
  simp only [filterSpec]
  apply List.filter_congr
  intro x hx
  have hxl := hlen x hx
  have hgt : lexLt (f.coords.take n) i.coords = true := by
    cases h : lexLt (f.coords.take n) i.coords
    · exfalso
      have h2 : lexLt i.coords (f.coords.take n) = false := by
        have := hnlt; simp only [Bool.not_eq_true] at this
        rw [← hi]; exact this
      have := lexLt_total h h2
      apply hne; rw [hi]; exact this.symm
    · rfl
  have hfx : lexLt (f.coords.take n) x.coords = true := by
    rcases List.mem_cons.1 hx with rfl | hx'
    · exact hgt
    · exact lexLt_trans hgt ((List.pairwise_cons.1 hin).1 x hx')
  have : ¬ (f.coords.take x.coords.length = x.coords) := by
    intro e; rw [hxl] at e; rw [e, lexLt_irrefl] at hfx; cases hfx
  simp [this]

theorem nextUseAux_dict (mask : List Bool) (epl : Nat) (rows : List CRow) (p : List Nat) :
    alookup (nextUseAux mask epl rows).2 p = rows.find? (fun x => x.line mask epl = p) := by
  induction rows with
  | nil => rfl
  | cons r rest ih =>
    simp only [nextUseAux, alookup_ainsert, List.find?_cons]
    by_cases h : r.line mask epl = p
    · simp [h]
    · simp [h, ih]

theorem nextUse_eq_spec (mask : List Bool) (epl : Nat) (rows : List CRow) :
    nextUse mask epl rows = nextUseSpec mask epl rows := by
  unfold nextUse
  induction rows with
  | nil => rfl
  | cons r rest ih => simp only [nextUseAux, nextUseSpec, nextUseAux_dict, ih]

/-- searching the accesses by line = searching the rows by line -/
theorem find_map_spec (mask : List Bool) (epl : Nat) (shape : Option Nat) (p : List Nat) :
    ∀ (l : List CRow),
      (((nextUseSpec mask epl l).map (mkAcc mask epl shape)).find?
          (fun x => decide (x.point = p))).map (·.stamp)
        = (l.find? (fun x => decide (x.line mask epl = p))).map (·.stamp)
  | [] => rfl
  | r :: rest => by
    simp only [nextUseSpec, List.map_cons, List.find?_cons]
    by_cases h : r.line mask epl = p
    · simp [mkAcc, h]
    · simp only [mkAcc, h, decide_false]
      exact find_map_spec mask epl shape p rest

theorem accsOf_stamps (mask : List Bool) (epl : Nat) (shape : Option Nat) (rows : List CRow) :
    (accsOf mask mask epl shape rows).map (·.stamp) = rows.map (·.stamp) := by
  unfold accsOf
  rw [nextUse_eq_spec]
  induction rows with
  | nil => rfl
  | cons r rest ih =>
    simp only [nextUseSpec, List.map_cons, List.cons.injEq]
    exact ⟨rfl, ih⟩

end Traffic
end Ft
