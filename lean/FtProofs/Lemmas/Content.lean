/-
  Lemmas about `content` and `isEmpty`, and: the content of a fiber determines its sorted list of
  non-empty groups (`flat_injective`).
-/
import FtProofs.Lemmas.Merge
set_option linter.unusedSectionVars false
namespace Ft
open StrictTotal

section
variable {κ ν : Type} [DecidableEq ν]

/-- prefix every point of a content list with coordinate `c` -/
def pre (c : κ) (l : List (List κ × ν)) : List (List κ × ν) := l.map (fun pv => (c :: pv.1, pv.2))

theorem content_succ (dflt : ν) (d : Nat) (f : Tree κ ν (d + 1)) :
    content dflt (d + 1) f =
      (show List (κ × Tree κ ν d) from f).flatMap (fun e => pre e.1 (content dflt d e.2)) := rfl

theorem content_cons (dflt : ν) (d : Nat) (e : κ × Tree κ ν d) (r : List (κ × Tree κ ν d)) :
    content dflt (d + 1) (show Tree κ ν (d + 1) from e :: r) =
      pre e.1 (content dflt d e.2) ++ content dflt (d + 1) (show Tree κ ν (d + 1) from r) := by
  show List.flatMap _ (e :: r) = _ ++ List.flatMap _ r
  rw [List.flatMap_cons]; rfl

theorem content_nil (dflt : ν) (d : Nat) :
    content dflt (d + 1) (show Tree κ ν (d + 1) from ([] : List (κ × Tree κ ν d))) = [] := rfl

theorem pre_eq_nil {c : κ} {l : List (List κ × ν)} : pre c l = [] ↔ l = [] := by
  simp [pre]

theorem isEmpty_iff_content (dflt : ν) : ∀ (d : Nat) (t : Tree κ ν d),
    isEmpty dflt d t = true ↔ content dflt d t = [] := by
  intro d
  induction d with
  | zero =>
    intro v
    show decide ((show ν from v) = dflt) = true ↔ (if (show ν from v) = dflt then [] else [([], (show ν from v))]) = []
    by_cases h : (show ν from v) = dflt <;> simp [h]
  | succ d ih =>
    intro f
    show (show List (κ × Tree κ ν d) from f).all (fun e => isEmpty dflt d e.2) = true ↔ _
    rw [content_succ, List.all_eq_true, List.flatMap_eq_nil_iff]
    exact forall₂_congr fun e _ => (ih e.2).trans pre_eq_nil.symm

theorem content_eq_nil_of_isEmpty {dflt : ν} {d : Nat} {t : Tree κ ν d} (h : isEmpty dflt d t = true) :
    content dflt d t = [] := (isEmpty_iff_content dflt d t).1 h

theorem content_present (dflt : ν) (d : Nat) (f : Tree κ ν (d + 1)) :
    content dflt (d + 1) f = (present dflt d f).flatMap (fun e => pre e.1 (content dflt d e.2)) := by
  rw [content_succ]
  refine (List.flatMap_filter_skip _ _ _ fun e _ h => ?_).symm
  exact pre_eq_nil.2 (content_eq_nil_of_isEmpty (by simpa using h))

end

section
variable {κ ν : Type} [LT κ] [DecidableRel (α := κ) (· < ·)] [DecidableEq κ] [StrictTotal κ]

def flat (G : List (κ × List (List κ × ν))) : List (List κ × ν) :=
  G.flatMap (fun g => pre g.1 g.2)

theorem flat_cons (g : κ × List (List κ × ν)) (G) : flat (g :: G) = pre g.1 g.2 ++ flat G := by
  simp [flat]

def headIs (c : κ) (pv : List κ × ν) : Bool :=
  match pv.1 with
  | [] => false
  | x :: _ => decide (x = c)

theorem headIs_pre (c : κ) (l : List (List κ × ν)) : ∀ x ∈ pre c l, headIs c x = true := by
  intro x hx
  obtain ⟨y, _, rfl⟩ := List.mem_map.1 hx
  simp [headIs]

theorem headIs_flat_false {c : κ} {G : List (κ × List (List κ × ν))}
    (h : ∀ g ∈ G, c < g.1) : ∀ x ∈ flat G, headIs c x = false := by
  intro x hx
  obtain ⟨g, hg, hx⟩ := List.mem_flatMap.1 hx
  obtain ⟨y, _, rfl⟩ := List.mem_map.1 hx
  have : g.1 ≠ c := fun e => lt_ne (h g hg) e.symm
  simp [headIs, this]

theorem pre_injective (c : κ) {l₁ l₂ : List (List κ × ν)} (h : pre c l₁ = pre c l₂) : l₁ = l₂ :=
  (List.map_inj_right fun _ _ hxy =>
    Prod.ext (List.cons.inj (Prod.mk.inj hxy).1).2 (Prod.mk.inj hxy).2).1 h

theorem flat_ne_nil {g : κ × List (List κ × ν)} (G) (hg : g.2 ≠ []) : flat (g :: G) ≠ [] := by
  rw [flat_cons]
  exact fun e => hg (List.map_eq_nil_iff.1 (List.append_eq_nil_iff.1 e).1)

theorem flat_injective : ∀ (G₁ G₂ : List (κ × List (List κ × ν))),
    Sorted G₁ → Sorted G₂ → (∀ g ∈ G₁, g.2 ≠ []) → (∀ g ∈ G₂, g.2 ≠ []) →
    flat G₁ = flat G₂ → G₁ = G₂ := by
  intro G₁
  induction G₁ with
  | nil =>
    intro G₂ _ _ _ n2 e
    cases G₂ with
    | nil => rfl
    | cons h s => exact absurd e.symm (flat_ne_nil s (n2 h (List.mem_cons_self ..)))
  | cons g r ih =>
    intro G₂ s1 s2 n1 n2 e
    cases G₂ with
    | nil => exact absurd e (flat_ne_nil r (n1 g (List.mem_cons_self ..)))
    | cons h s =>
      rw [flat_cons, flat_cons] at e
      -- the first point on each side starts with the group's coordinate
      have hc : g.1 = h.1 := by
        cases g2 : g.2 with
        | nil => exact absurd g2 (n1 g (List.mem_cons_self ..))
        | cons a l =>
          cases h2 : h.2 with
          | nil => exact absurd h2 (n2 h (List.mem_cons_self ..))
          | cons b m =>
            rw [g2, h2] at e
            exact (List.cons.inj (Prod.mk.inj (List.cons.inj e).1).1).1
      -- so the points that start with it are the first group on either side
      rw [← hc] at e
      have sp := append_split (headIs g.1) (headIs_pre g.1 g.2) (headIs_pre g.1 h.2)
        (headIs_flat_false s1.head_lt) (headIs_flat_false (hc ▸ s2.head_lt)) e
      rw [show g = h from Prod.ext hc (pre_injective g.1 sp.1),
        ih s s1.tail s2.tail (fun x hx => n1 x (List.mem_cons_of_mem _ hx))
          (fun x hx => n2 x (List.mem_cons_of_mem _ hx)) sp.2]

end
end Ft
