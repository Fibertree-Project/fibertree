/-
  Helpers for assignment at a partial point (C03): what a read sees after a fiber-level
  transformer has been applied at the sub-fiber reached by a stored path.
-/
import FtProofs.Lemmas.MutLemmas
namespace Ft
open StrictTotal

section
variable {κ ν : Type} [LT κ] [DecidableRel (α := κ) (· < ·)] [DecidableEq κ] [StrictTotal κ]

theorem val_atPath (dflt : ν) (F : (d : Nat) → Tree κ ν (d + 1) → Tree κ ν (d + 1) × Outcome) :
    ∀ (d : Nat) (t : Tree κ ν (d + 1)), WF (d + 1) t → ∀ (path : List κ) (d' : Nat) (s : Tree κ ν (d' + 1)),
      locate d t path = some ⟨d', s⟩ → ∀ q,
      val dflt (d + 1) (atPath F d t path).1 q =
        if path <+: q then val dflt (d' + 1) (F d' s).1 (q.drop path.length) else val dflt (d + 1) t q := by
  have hnil : ∀ d (t : Tree κ ν (d + 1)) d' (s : Tree κ ν (d' + 1)), locate d t [] = some ⟨d', s⟩ → ∀ q,
      val dflt (d + 1) (atPath F d t []).1 q =
        if [] <+: q then val dflt (d' + 1) (F d' s).1 (q.drop 0) else val dflt (d + 1) t q := by
    intro d t d' s hl q
    rw [locate_nil] at hl
    cases hl
    rw [atPath_nil, if_pos List.nil_prefix]; rfl
  intro d
  induction d with
  | zero =>
    intro t _ path d' s hl q
    cases path with
    | nil => exact hnil 0 t d' s hl q
    | cons _ _ => cases hl
  | succ d ih =>
    intro t h path d' s hl q
    cases path with
    | nil => exact hnil _ t d' s hl q
    | cons c cs =>
      cases hlk : lookup (show List (κ × Tree κ ν (d + 1)) from t) c with
      | none => rw [locate_cons_none hlk] at hl; cases hl
      | some s0 =>
        rw [locate_cons_some hlk] at hl
        rw [atPath_cons_some F hlk]
        cases q with
        | nil => rfl
        | cons c2 q2 =>
          simp only [val_cons, List.cons_prefix_cons, List.length_cons, List.drop_succ_cons]
          rw [val_cons dflt (d + 1) t c2 q2,
            lookup_map_key (show List (κ × Tree κ ν (d + 1)) from t) c c2 (fun _ => (atPath F d s0 cs).1)]
          by_cases hc : c2 = c
          · subst hc
            simp only [if_true, hlk, Option.map_some, Option.getD_some, true_and]
            exact ih s0 (h.sub _ (mem_of_lookup_eq_some hlk)) cs d' s hl q2
          · rw [if_neg hc, if_neg (fun hcc => hc hcc.1.symm)]

theorem locate_refAt (dflt : ν) : ∀ (d : Nat) (t : Tree κ ν (d + 1)), WF (d + 1) t → ∀ (p : List κ),
    p.length ≤ d → ∃ (d' : Nat) (s : Tree κ ν (d' + 1)), locate d (refAt dflt (d + 1) t p) p = some ⟨d', s⟩ := by
  intro d
  induction d with
  | zero =>
    intro t _ p hp
    cases p with
    | nil => exact ⟨0, t, rfl⟩
    | cons _ _ => cases hp
  | succ d ih =>
    intro t h p hp
    cases p with
    | nil => exact ⟨_, t, rfl⟩
    | cons c cs =>
      obtain ⟨d', s, hs⟩ := ih _ (wf_getD_lookup dflt h c) cs (Nat.le_of_succ_le_succ hp)
      exact ⟨d', s, (locate_cons_some (by rw [lookup_refAt dflt h.sorted, if_pos rfl]) cs).trans hs⟩

end
end Ft
