/-
  Key sets of fibers (`HasKey`), the union merge `orMerge` (its keys, order and rows), the
  intersection and difference specs one comparison at a time, extensionality of sorted fibers whose
  rows are determined by their key, and lookups through the merges.
-/
import FtProofs.Lemmas.Sorted
set_option linter.unusedSectionVars false
namespace Ft
open StrictTotal

section
variable {κ : Type} [LT κ] [DecidableRel (α := κ) (· < ·)] [DecidableEq κ] [StrictTotal κ]
variable {α β π : Type}

/-- coordinate membership as a Prop -/
def HasKey (f : Fib κ π) (c : κ) : Prop := ∃ e ∈ f, e.1 = c

theorem hasCoord_iff (f : Fib κ π) (c : κ) : hasCoord f c = true ↔ HasKey f c := by
  unfold hasCoord HasKey
  rw [List.any_eq_true]
  simp only [decide_eq_true_eq]

theorem hasKey_iff_mem_keys (f : Fib κ π) (c : κ) : HasKey f c ↔ c ∈ f.map (·.1) :=
  List.mem_map.symm

theorem hasKey_cons {e : κ × π} {f : Fib κ π} {c : κ} :
    HasKey (e :: f) c ↔ e.1 = c ∨ HasKey f c := by
  simp only [HasKey, List.mem_cons, exists_eq_or_imp]

theorem not_hasKey_nil (c : κ) : ¬ HasKey ([] : Fib κ π) c := fun ⟨_, h, _⟩ => by cases h

theorem hasKey_iff_lookup (f : Fib κ π) (c : κ) : HasKey f c ↔ (lookup f c).isSome = true := by
  rw [← hasCoord_iff, hasCoord_iff_lookup]

theorem lookup_none_of_not_hasKey {f : Fib κ π} {c : κ} (h : ¬ HasKey f c) : lookup f c = none :=
  Option.not_isSome_iff_eq_none.1 (mt (hasKey_iff_lookup f c).2 h)

theorem hasCoord_of_mem {f : Fib κ π} {e : κ × π} (he : e ∈ f) : hasCoord f e.1 = true :=
  (hasCoord_iff f e.1).2 ⟨e, he, rfl⟩

theorem Sorted.lt_of_hasKey {e : κ × π} {f : Fib κ π} (h : Sorted (e :: f)) {c : κ}
    (hc : HasKey f c) : e.1 < c := by
  obtain ⟨x, hx, rfl⟩ := hc
  exact h.head_lt x hx

theorem sorted_cons_of_keys {e : κ × π} {f : Fib κ π} (hs : Sorted f)
    (h : ∀ c, HasKey f c → e.1 < c) : Sorted (e :: f) :=
  sorted_cons.2 ⟨fun x hx => h x.1 ⟨x, hx, rfl⟩, hs⟩

theorem sorted_map_key {γ : Type} (f : Fib κ π) (g : κ × π → γ) (h : Sorted f) :
    Sorted (f.map (fun e => (e.1, g e))) :=
  List.pairwise_map.2 h

theorem hasKey_map_key {γ : Type} (f : Fib κ π) (g : κ × π → γ) (c : κ) :
    HasKey (f.map (fun e => (e.1, g e))) c ↔ HasKey f c := by
  unfold HasKey
  constructor
  · rintro ⟨e, he, rfl⟩
    obtain ⟨x, hx, rfl⟩ := List.mem_map.1 he
    exact ⟨x, hx, rfl⟩
  · rintro ⟨x, hx, rfl⟩
    exact ⟨_, List.mem_map_of_mem hx, rfl⟩

theorem hasKey_orMerge (a : Fib κ α) (b : Fib κ β) (c : κ) :
    HasKey (orMerge a b) c ↔ HasKey a c ∨ HasKey b c := by
  fun_induction orMerge a b with
  | case1 b => exact (hasKey_map_key b _ c).trans (or_iff_right (not_hasKey_nil c)).symm
  | case2 e r => exact (hasKey_map_key (e :: r) _ c).trans (or_iff_left (not_hasKey_nil c)).symm
  | case3 pa ra ca pb rb ih => simp only [hasKey_cons, ih]; exact or_or_distrib_left
  | case4 ca pa ra cb pb rb _ _ ih => simp only [hasKey_cons, ih, or_assoc]
  | case5 ca pa ra cb pb rb _ _ ih => simp only [hasKey_cons, ih]; exact or_left_comm

theorem orMerge_keys (a : Fib κ α) (b : Fib κ β) (c : κ) :
    HasKey (orMerge a b) c → HasKey a c ∨ HasKey b c := (hasKey_orMerge a b c).1

theorem orMerge_cover (a : Fib κ α) (b : Fib κ β) (c : κ) :
    HasKey a c ∨ HasKey b c → HasKey (orMerge a b) c := (hasKey_orMerge a b c).2

theorem lt_orMerge {a : Fib κ α} {b : Fib κ β} {x : κ} (ha : ∀ e ∈ a, x < e.1)
    (hb : ∀ e ∈ b, x < e.1) : ∀ r ∈ orMerge a b, x < r.1 := by
  intro r hr
  rcases orMerge_keys a b r.1 ⟨r, hr, rfl⟩ with ⟨e, he, h⟩ | ⟨e, he, h⟩
  · exact h ▸ ha e he
  · exact h ▸ hb e he

theorem orMerge_sorted (a : Fib κ α) (b : Fib κ β) (ha : Sorted a) (hb : Sorted b) :
    Sorted (orMerge a b) := by
  fun_induction orMerge a b with
  | case1 b => exact sorted_map_key b _ hb
  | case2 e r => exact sorted_map_key (e :: r) _ ha
  | case3 pa ra ca pb rb ih =>
    exact sorted_cons.2 ⟨lt_orMerge ha.head_lt hb.head_lt, ih ha.tail hb.tail⟩
  | case4 ca pa ra cb pb rb hne hlt ih =>
    exact sorted_cons.2 ⟨lt_orMerge ha.head_lt (hb.lt_of_lt_head hlt), ih ha.tail hb⟩
  | case5 ca pa ra cb pb rb hne hnlt ih =>
    exact sorted_cons.2
      ⟨lt_orMerge (ha.lt_of_lt_head (gt_of_not_lt_ne hne hnlt)) hb.head_lt, ih ha hb.tail⟩

/-- a union row is correct: operands' own payloads, mask = sides present -/
def OrRow (a : Fib κ α) (b : Fib κ β) (row : κ × Mask × Option α × Option β) : Prop :=
  row.2.2.1 = lookup a row.1 ∧ row.2.2.2 = lookup b row.1 ∧
  some row.2.1 = maskOf (hasCoord a row.1) (hasCoord b row.1)

theorem orRowOk_iff [DecidableEq α] [DecidableEq β] (a : Fib κ α) (b : Fib κ β)
    (row : κ × Mask × Option α × Option β) : orRowOk a b row = true ↔ OrRow a b row := by
  simp only [orRowOk, OrRow, Bool.and_eq_true, decide_eq_true_eq, and_assoc]

namespace OrRow

theorem cons_left {a : Fib κ α} {b : Fib κ β} {row} (e : κ × α) (h : OrRow a b row)
    (hne : e.1 ≠ row.1) : OrRow (e :: a) b row := by
  unfold OrRow at *
  rw [lookup_cons_ne hne, hasCoord_cons_ne hne]; exact h

theorem cons_right {a : Fib κ α} {b : Fib κ β} {row} (e : κ × β) (h : OrRow a b row)
    (hne : e.1 ≠ row.1) : OrRow a (e :: b) row := by
  unfold OrRow at *
  rw [lookup_cons_ne hne, hasCoord_cons_ne hne]; exact h

end OrRow

theorem orMerge_rows (a : Fib κ α) (b : Fib κ β) (ha : Sorted a) (hb : Sorted b) :
    ∀ row ∈ orMerge a b, OrRow a b row := by
  fun_induction orMerge a b with
  | case1 b =>
    intro row hrow
    obtain ⟨e, he, rfl⟩ := List.mem_map.1 hrow
    refine ⟨rfl, (lookup_of_sorted_mem hb he).symm, ?_⟩
    show some Mask.B = maskOf (hasCoord ([] : Fib κ α) e.1) (hasCoord b e.1)
    rw [hasCoord_of_mem he]; rfl
  | case2 e r =>
    intro row hrow
    obtain ⟨x, hx, rfl⟩ := List.mem_map.1 hrow
    refine ⟨(lookup_of_sorted_mem ha hx).symm, rfl, ?_⟩
    show some Mask.A = maskOf (hasCoord (e :: r) x.1) (hasCoord ([] : Fib κ β) x.1)
    rw [hasCoord_of_mem hx]; rfl
  | case3 pa ra ca pb rb ih =>
    intro row hrow
    rcases List.mem_cons.1 hrow with rfl | hrow
    · refine ⟨(lookup_cons_self ..).symm, (lookup_cons_self ..).symm, ?_⟩
      show _ = maskOf (hasCoord ((ca, pa) :: ra) ca) (hasCoord ((ca, pb) :: rb) ca)
      rw [hasCoord_cons_self, hasCoord_cons_self]; rfl
    · have hne := lt_ne (lt_orMerge ha.head_lt hb.head_lt row hrow)
      exact ((ih ha.tail hb.tail row hrow).cons_left (ca, pa) hne).cons_right (ca, pb) hne
  | case4 ca pa ra cb pb rb hne hlt ih =>
    have hb' := hb.lt_of_lt_head hlt
    intro row hrow
    rcases List.mem_cons.1 hrow with rfl | hrow
    · refine ⟨(lookup_cons_self ..).symm, (lookup_eq_none_of_lt hb').symm, ?_⟩
      show _ = maskOf (hasCoord ((ca, pa) :: ra) ca) (hasCoord ((cb, pb) :: rb) ca)
      rw [hasCoord_cons_self, hasCoord_eq_false_of_lt hb']; rfl
    · exact (ih ha.tail hb row hrow).cons_left (ca, pa) (lt_ne (lt_orMerge ha.head_lt hb' row hrow))
  | case5 ca pa ra cb pb rb hne hnlt ih =>
    have ha' := ha.lt_of_lt_head (gt_of_not_lt_ne hne hnlt)
    intro row hrow
    rcases List.mem_cons.1 hrow with rfl | hrow
    · refine ⟨(lookup_eq_none_of_lt ha').symm, (lookup_cons_self ..).symm, ?_⟩
      show _ = maskOf (hasCoord ((ca, pa) :: ra) cb) (hasCoord ((cb, pb) :: rb) cb)
      rw [hasCoord_cons_self, hasCoord_eq_false_of_lt ha']; rfl
    · exact (ih ha hb.tail row hrow).cons_right (cb, pb) (lt_ne (lt_orMerge ha' hb.head_lt row hrow))

theorem andSpec_cons_right_of_lt {a : Fib κ α} {e : κ × β} {b : Fib κ β}
    (h : ∀ x ∈ a, e.1 < x.1) : andSpec a (e :: b) = andSpec a b :=
  filterMap_congr' (fun x hx => by rw [lookup_cons_ne (lt_ne (h x hx))])

theorem andSpec_cons_left_of_lt {e : κ × α} {a : Fib κ α} {b : Fib κ β}
    (h : ∀ x ∈ b, e.1 < x.1) : andSpec (e :: a) b = andSpec a b := by
  unfold andSpec
  rw [List.filterMap_cons, lookup_eq_none_of_lt h]; rfl

theorem andSpec_cons_cons_self (c : κ) (p : α) (q : β) (a : Fib κ α) (b : Fib κ β) :
    andSpec ((c, p) :: a) ((c, q) :: b) = (c, (p, q)) :: andSpec a ((c, q) :: b) := by
  unfold andSpec
  rw [List.filterMap_cons, lookup_cons_self]; rfl

theorem subSpec_cons_right_of_lt {a : Fib κ α} {e : κ × β} {b : Fib κ β}
    (h : ∀ x ∈ a, e.1 < x.1) : subSpec a (e :: b) = subSpec a b :=
  List.filter_congr (fun x hx => by rw [hasCoord_cons_ne (lt_ne (h x hx))])

theorem subSpec_cons_left_of_lt {e : κ × α} {a : Fib κ α} {b : Fib κ β}
    (h : ∀ x ∈ b, e.1 < x.1) : subSpec (e :: a) b = e :: subSpec a b := by
  unfold subSpec
  rw [List.filter_cons, hasCoord_eq_false_of_lt h]; rfl

theorem subSpec_cons_cons_self (c : κ) (p : α) (q : β) (a : Fib κ α) (b : Fib κ β) :
    subSpec ((c, p) :: a) ((c, q) :: b) = subSpec a ((c, q) :: b) := by
  unfold subSpec
  rw [List.filter_cons, hasCoord_cons_self]; rfl

theorem andSpec_sorted (a : Fib κ α) (b : Fib κ β) (hs : Sorted a) : Sorted (andSpec a b) :=
  hs.filterMap_key _ fun e r h => by
    obtain ⟨pb, _, rfl⟩ := Option.map_eq_some_iff.1 h
    rfl

theorem sorted_ext_of_fn {F : κ → π} :
    ∀ (l₁ l₂ : Fib κ π), Sorted l₁ → Sorted l₂ →
    (∀ r ∈ l₁, r.2 = F r.1) → (∀ r ∈ l₂, r.2 = F r.1) →
    (∀ c, HasKey l₁ c ↔ HasKey l₂ c) → l₁ = l₂ := by
  intro l₁ l₂ h1 h2 f1 f2 hk
  -- an element is its key and `F` of its key, so equal key sets are equal element sets
  have mem : ∀ {l l' : Fib κ π}, (∀ r ∈ l, r.2 = F r.1) → (∀ r ∈ l', r.2 = F r.1) →
      (∀ c, HasKey l c → HasKey l' c) → ∀ r ∈ l, r ∈ l' := by
    intro l l' f f' hk r hr
    obtain ⟨r', hr', e⟩ := hk r.1 ⟨r, hr, rfl⟩
    rw [show r = r' from Prod.ext e.symm ((f r hr).trans (e ▸ (f' r' hr').symm))]
    exact hr'
  exact h1.eq_of_mem_iff h2 fun r =>
    ⟨mem f1 f2 (fun c => (hk c).1) r, mem f2 f1 (fun c => (hk c).2) r⟩

/-- the truth table determines the union: a sorted list of correct rows that covers both
    operands is `orMerge a b` -/
theorem orMerge_unique (a : Fib κ α) (b : Fib κ β) (ha : Sorted a) (hb : Sorted b)
    (out : Fib κ (Mask × Option α × Option β)) (hs : Sorted out)
    (hrows : ∀ row ∈ out, OrRow a b row) (hcov : ∀ c, HasKey a c ∨ HasKey b c → HasKey out c) :
    out = orMerge a b := by
  -- a correct row is a function of its coordinate
  have toF : ∀ row, OrRow a b row → row.2 =
      ((maskOf (hasCoord a row.1) (hasCoord b row.1)).getD Mask.A, lookup a row.1, lookup b row.1) := by
    intro row ⟨h1, h2, h3⟩
    refine Prod.ext ?_ (Prod.ext h1 h2)
    show row.2.1 = (maskOf (hasCoord a row.1) (hasCoord b row.1)).getD Mask.A
    rw [← h3]; rfl
  refine sorted_ext_of_fn (F := fun c =>
      ((maskOf (hasCoord a c) (hasCoord b c)).getD Mask.A, lookup a c, lookup b c))
    out (orMerge a b) hs (orMerge_sorted a b ha hb) (fun r hr => toF r (hrows r hr))
    (fun r hr => toF r (orMerge_rows a b ha hb r hr)) (fun c => ⟨?_, fun hc => hcov c (orMerge_keys a b c hc)⟩)
  -- a correct row presents its coordinate on one side at least, its mask being `some`
  rintro ⟨r, hr, rfl⟩
  obtain ⟨_, _, h3⟩ := hrows r hr
  refine orMerge_cover a b r.1 ?_
  cases hA : hasCoord a r.1
  · cases hB : hasCoord b r.1
    · rw [hA, hB] at h3; cases h3
    · exact Or.inr ((hasCoord_iff _ _).1 hB)
  · exact Or.inl ((hasCoord_iff _ _).1 hA)

theorem lookup_orMerge_map (a : Fib κ α) (b : Fib κ β) (ha : Sorted a) (hb : Sorted b)
    (g : Option α → Option β → γ) (c : κ) :
    lookup ((orMerge a b).map (fun r => (r.1, g r.2.2.1 r.2.2.2))) c =
      if (lookup a c).isSome = true ∨ (lookup b c).isSome = true then some (g (lookup a c) (lookup b c))
      else none := by
  rw [lookup_map_payload (orMerge a b) (fun _ v => g v.2.1 v.2.2) c]
  by_cases h : (lookup a c).isSome = true ∨ (lookup b c).isSome = true
  · rw [if_pos h]
    obtain ⟨row, hrow, rfl⟩ := orMerge_cover a b c
      (h.imp (hasKey_iff_lookup a c).2 (hasKey_iff_lookup b c).2)
    obtain ⟨h1, h2, _⟩ := orMerge_rows a b ha hb row hrow
    rw [lookup_of_sorted_mem (orMerge_sorted a b ha hb) hrow, ← h1, ← h2]
    rfl
  · rw [if_neg h]
    have hk : ¬ HasKey (orMerge a b) c := fun hk =>
      h ((orMerge_keys a b c hk).imp (hasKey_iff_lookup a c).1 (hasKey_iff_lookup b c).1)
    rw [lookup_none_of_not_hasKey hk]
    rfl

omit [StrictTotal κ] in
theorem orMerge_self : ∀ (a : Fib κ π),
    orMerge a a = a.map (fun e => (e.1, (Mask.AB, some e.2, some e.2))) := by
  intro a
  induction a with
  | nil => simp [orMerge]
  | cons e r ih =>
    obtain ⟨c, p⟩ := e
    -- equal heads: one step of `orMerge` takes the `AB` branch and recurses on the tails
    rw [orMerge]
    simp [ih]

theorem andMerge_coord_mem (a : Fib κ α) (b : Fib κ β) : ∀ x ∈ andMerge a b, ∃ e ∈ a, e.1 = x.1 := by
  fun_induction andMerge a b with
  | case1 b => intro x hx; cases hx
  | case2 e r => intro x hx; cases hx
  | case3 pa ra ca pb rb ih =>
    intro x hx
    rcases List.mem_cons.1 hx with rfl | hx
    · exact ⟨_, List.mem_cons_self .., rfl⟩
    · obtain ⟨e, he, h⟩ := ih x hx
      exact ⟨e, List.mem_cons_of_mem _ he, h⟩
  | case4 ca pa ra cb pb rb hne hlt ih =>
    intro x hx
    obtain ⟨e, he, h⟩ := ih x hx
    exact ⟨e, List.mem_cons_of_mem _ he, h⟩
  | case5 ca pa ra cb pb rb hne hnlt ih => exact ih

theorem subMerge_mem (a : Fib κ α) (b : Fib κ β) : ∀ x ∈ subMerge a b, x ∈ a := by
  fun_induction subMerge a b with
  | case1 b => intro x hx; cases hx
  | case2 e r => intro x hx; exact hx
  | case3 pa ra ca pb rb ih => intro x hx; exact List.mem_cons_of_mem _ (ih x hx)
  | case4 ca pa ra cb pb rb hne hlt ih =>
    intro x hx
    rcases List.mem_cons.1 hx with rfl | hx
    · exact List.mem_cons_self ..
    · exact List.mem_cons_of_mem _ (ih x hx)
  | case5 ca pa ra cb pb rb hne hnlt ih => exact ih

theorem lookup_andSpec (a : Fib κ α) (b : Fib κ β) (ha : Sorted a) (c : κ) :
    lookup (andSpec a b) c = (lookup a c).bind (fun pa => (lookup b c).map (fun pb => (pa, pb))) := by
  rw [← lookup_filterMap_key ha (fun e => (lookup b e.1).map (fun pb => (e.2, pb))) c]
  unfold andSpec
  congr 1
  exact filterMap_congr' (fun e _ => by rw [Option.map_map]; rfl)

/-- elements all below `b` hold nothing at `b` or above -/
theorem lookup_eq_none_of_all_lt {A : Fib κ π} {b c : κ} (hA : ∀ x ∈ A, x.1 < b) (hc : b = c ∨ b < c) :
    lookup A c = none :=
  lookup_none_of_not_hasKey (fun ⟨x, hx, he⟩ =>
    hc.elim (fun h => lt_ne (hA x hx) (he.trans h.symm)) (fun h => lt_ne (trans (hA x hx) h) he))

end
end Ft
