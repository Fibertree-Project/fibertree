/-
  Helper lemmas for C17 (cache): fills are charged only by `cCharge`, resident lines are lines that
  were accessed, hence the unconditional bounds on the fills of the cache model.
-/
import FtProofs.Lemmas.TrafficCache
namespace Ft
namespace Traffic

theorem getAt_addAt (l : List (Nat × Nat)) (i j v : Nat) :
    getAt (addAt l i v) j = if i = j then getAt l i + v else getAt l j := by
  unfold getAt addAt
  rw [alookup_ainsert]
  by_cases h : i = j
  · subst h; simp
  · simp [h]

theorem isSome_of_aerase {κ β : Type} [DecidableEq κ] {l : List (κ × β)} {k x : κ}
    (h : (alookup (aerase l k) x).isSome = true) : (alookup l x).isSome = true := by
  rw [alookup_aerase] at h
  split at h
  · cases h
  · exact h

theorem evictLoop_frame (ls : Nat) (cap : Option Nat) : ∀ (fuel : Nat) (s : CState),
    (evictLoop ls cap fuel s).reads = s.reads ∧
    ∀ k, (alookup (evictLoop ls cap fuel s).objs k).isSome = true → (alookup s.objs k).isSome = true
  | 0, _ => ⟨rfl, fun _ h => h⟩
  | fuel + 1, s => by
    rw [evictLoop]
    dsimp only
    split
    · exact ⟨rfl, fun _ h => h⟩
    · split
      · exact ⟨rfl, fun _ h => h⟩
      · split
        · exact ⟨rfl, fun _ h => h⟩
        · obtain ⟨ih1, ih2⟩ := evictLoop_frame ls cap fuel _
          exact ⟨ih1, fun k h => isSome_of_aerase (ih2 k h)⟩

theorem cAdd_frame (ls : Nat) (cap : Option Nat) (s : CState) (i : Nat) (a : Acc) (le : LElem) :
    (cAdd ls cap s i a le).reads = s.reads ∧
    ∀ k, (alookup (cAdd ls cap s i a le).objs k).isSome = true →
      (alookup s.objs k).isSome = true ∨ k = (i, a.point) := by
  obtain ⟨h1, h2⟩ := evictLoop_frame ls cap (s.nextEvict.length + 1) s
  -- the new line enters `objs`; the sorted list and the pinned set are not looked at here
  have hobjs : ∀ k, (alookup (ainsert (evictLoop ls cap (s.nextEvict.length + 1) s).objs (i, a.point) a.wb) k).isSome
      = true → (alookup s.objs k).isSome = true ∨ k = (i, a.point) := by
    intro k h
    rw [alookup_ainsert] at h
    split at h
    · rename_i e; exact Or.inr e.symm
    · exact Or.inl (h2 k h)
  unfold cAdd
  dsimp only
  cases (evictLoop ls cap (s.nextEvict.length + 1) s).failed.isSome
  · cases a.staging
    · exact ⟨h1, hobjs⟩
    · exact ⟨h1, hobjs⟩
  · exact ⟨h1, fun k h => Or.inl (h2 k h)⟩

theorem csetDirty_objs (objs : List (CKey × Bool)) (k k' : CKey) (wb : Bool) :
    (alookup (csetDirty objs k wb) k').isSome = true → (alookup objs k').isSome = true := by
  unfold csetDirty
  intro h
  split at h
  · rename_i d hd
    rw [alookup_ainsert] at h
    split at h
    · rename_i e; subst e; rw [hd]; rfl
    · exact h
  · exact h

theorem cCore_frame (ls : Nat) (cap : Option Nat) (s : CState) (x : Nat × Acc) :
    (cCore ls cap s x).reads = s.reads ∧
    ∀ k, (alookup (cCore ls cap s x).objs k).isSome = true →
      (alookup s.objs k).isSome = true ∨ k = skey x := by
  have same : ∀ s' : CState, s'.reads = s.reads → s'.objs = s.objs →
      s'.reads = s.reads ∧ ∀ k, (alookup s'.objs k).isSome = true →
        (alookup s.objs k).isSome = true ∨ k = skey x :=
    fun s' h1 h2 => ⟨h1, fun k h => Or.inl (h2 ▸ h)⟩
  cases hn : x.2.next with
  | none =>
    cases hl : alookup s.objs (skey x) with
    | none =>
      rw [cCore_none_miss ls cap s x hn hl]
      cases x.2.wb
      · exact same _ rfl rfl
      · exact same _ rfl rfl
    | some d =>
      rw [cCore_none_hit ls cap s x hn hl]
      exact ⟨rfl, fun k h => Or.inl (isSome_of_aerase h)⟩
  | some nx =>
    cases hl : alookup s.objs (skey x) with
    | none =>
      cases hp : s.pinned.contains (skey x) with
      | true => rw [cCore_some_miss_pinned ls cap s x hn hl hp]; exact same _ rfl rfl
      | false =>
        rw [cCore_some_miss ls cap s x hn hl hp]
        generalize (capFits cap (s.occ + ls) || x.2.staging || _) = bring
        cases bring
        · cases x.2.wb
          · exact same _ rfl rfl
          · exact same _ rfl rfl
        · exact cAdd_frame ls cap s x.1 x.2 _
    | some d =>
      rw [cCore_some_hit ls cap s x hn hl]
      exact ⟨rfl, fun k h => Or.inl (csetDirty_objs _ _ _ _ h)⟩

/-- a fill is charged exactly for a read miss -/
theorem cstep_reads (ls : Nat) (cap : Option Nat) (s : CState) (x : Nat × Acc) (i : Nat) :
    getAt (cstep ls cap s x).reads i =
      getAt s.reads i +
        (if s.failed = none ∧ x.1 = i ∧ alookup s.objs (x.1, x.2.point) = none ∧ x.2.isWrite = false
         then ls else 0) := by
  cases hf : s.failed with
  | some e => rw [cstep_failed ls cap x (by rw [hf]; exact Option.some_ne_none e)]; simp
  | none =>
    rw [cstep_ok ls cap x hf, (cCore_frame ls cap _ x).1]
    simp only [true_and]
    unfold cCharge
    cases hl : alookup s.objs (x.1, x.2.point) with
    | some d => simp
    | none =>
      cases hw : x.2.isWrite
      · simp only [Option.isNone_none, Bool.not_false, Bool.and_self, if_true, getAt_addAt]
        by_cases hi : x.1 = i
        · subst hi; simp
        · simp [hi]
      · simp

theorem cstep_objs (ls : Nat) (cap : Option Nat) (s : CState) (x : Nat × Acc) (k : CKey) :
    (alookup (cstep ls cap s x).objs k).isSome = true →
      (alookup s.objs k).isSome = true ∨ k = (x.1, x.2.point) := by
  cases hf : s.failed with
  | some e => rw [cstep_failed ls cap x (by rw [hf]; exact Option.some_ne_none e)]; exact Or.inl
  | none =>
    rw [cstep_ok ls cap x hf]
    intro h
    have := (cCore_frame ls cap _ x).2 k h
    have hc : (cCharge ls s x).objs = s.objs := by unfold cCharge; split <;> rfl
    rwa [hc] at this

/-- an exception ends the run: once `failed`, always `failed` -/
theorem foldl_failed (ls : Nat) (cap : Option Nat) : ∀ (xs : List (Nat × Acc)) (s : CState),
    s.failed ≠ none → xs.foldl (cstep ls cap) s = s
  | [], _, _ => rfl
  | x :: xs, s, h => by
    rw [List.foldl_cons, cstep_failed ls cap x h]
    exact foldl_failed ls cap xs s h

/-- reads of binding `i` that are first accesses to their line -/
def firstReadsOf (i : Nat) : List CKey → List (Nat × Acc) → Nat
  | _, [] => 0
  | seen, x :: rest =>
    (if x.1 = i ∧ (x.1, x.2.point) ∉ seen ∧ x.2.isWrite = false then 1 else 0)
      + firstReadsOf i ((x.1, x.2.point) :: seen) rest

def readsOf (i : Nat) (xs : List (Nat × Acc)) : Nat :=
  (xs.filter (fun x => decide (x.1 = i) && !x.2.isWrite)).length

theorem cache_upper (ls : Nat) (cap : Option Nat) (i : Nat) : ∀ (xs : List (Nat × Acc)) (s : CState),
    getAt (xs.foldl (cstep ls cap) s).reads i ≤ getAt s.reads i + ls * readsOf i xs
  | [], _ => by simp [readsOf]
  | x :: xs, s => by
    have ih := cache_upper ls cap i xs (cstep ls cap s x)
    have hs := cstep_reads ls cap s x i
    simp only [List.foldl_cons]
    have : readsOf i (x :: xs) = readsOf i xs + (if x.1 = i ∧ x.2.isWrite = false then 1 else 0) := by
      unfold readsOf
      rw [List.filter_cons]
      by_cases h1 : x.1 = i <;> cases h2 : x.2.isWrite <;> simp [h1]
    rw [this, Nat.mul_add]
    have hle : (if s.failed = none ∧ x.1 = i ∧ alookup s.objs (x.1, x.2.point) = none ∧ x.2.isWrite = false
         then ls else 0) ≤ ls * (if x.1 = i ∧ x.2.isWrite = false then 1 else 0) := by
      split
      · rename_i h; simp [h.2.1, h.2.2.2]
      · exact Nat.zero_le _
    omega

theorem cache_lower (ls : Nat) (cap : Option Nat) (i : Nat) : ∀ (xs : List (Nat × Acc)) (s : CState)
    (seen : List CKey), (∀ k, (alookup s.objs k).isSome = true → k ∈ seen) →
    (xs.foldl (cstep ls cap) s).failed = none →
    getAt s.reads i + ls * firstReadsOf i seen xs ≤ getAt (xs.foldl (cstep ls cap) s).reads i
  | [], _, _, _, _ => by simp [firstReadsOf]
  | x :: xs, s, seen, hsub, hok => by
    simp only [List.foldl_cons] at hok ⊢
    have hsf : s.failed = none := by
      cases hf : s.failed with
      | none => rfl
      | some e =>
        have h1 : s.failed ≠ none := by rw [hf]; simp
        rw [cstep_failed ls cap x h1, foldl_failed ls cap xs s h1, hf] at hok
        cases hok
    have hsub' : ∀ k, (alookup (cstep ls cap s x).objs k).isSome = true → k ∈ (x.1, x.2.point) :: seen := by
      intro k hk
      rcases cstep_objs ls cap s x k hk with h | h
      · exact List.mem_cons_of_mem _ (hsub k h)
      · rw [h]; exact List.mem_cons_self
    have ih := cache_lower ls cap i xs (cstep ls cap s x) _ hsub' hok
    have hs := cstep_reads ls cap s x i
    simp only [firstReadsOf, Nat.mul_add]
    have hge : ls * (if x.1 = i ∧ (x.1, x.2.point) ∉ seen ∧ x.2.isWrite = false then 1 else 0) ≤
        (if s.failed = none ∧ x.1 = i ∧ alookup s.objs (x.1, x.2.point) = none ∧ x.2.isWrite = false
         then ls else 0) := by
      split
      · rename_i h
        have hnone : alookup s.objs (x.1, x.2.point) = none := by
          cases hl : alookup s.objs (x.1, x.2.point) with
          | none => rfl
          | some d => exact absurd (hsub _ (by simp [hl])) h.2.1
        rw [if_pos ⟨hsf, h.1, hnone, h.2.2⟩]; simp
      · simp
    omega

end Traffic
end Ft
