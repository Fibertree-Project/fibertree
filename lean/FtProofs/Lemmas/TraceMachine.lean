/-
  C16: the Metrics class as a state machine.  What each call does to the lines of the traces,
  then the two invariants: `Sim` (runs with different `num_cached_uses` differ only in what is already
  written and what is still buffered) and `MF` (a trace kept in a file and in memory holds the same
  lines in both).
-/
import FtModel.Trace
import FtProofs.Lemmas.ListFacts
namespace Ft.C16

@[simp] theorem upd_same {α β : Type} [DecidableEq α] (f : α → β) (k : α) (v : β) : upd f k v k = v := by
  simp [upd]

theorem upd_other {α β : Type} [DecidableEq α] (f : α → β) (k k' : α) (v : β) (h : k' ≠ k) :
    upd f k v k' = f k' := by
  simp [upd, h]

def fileOn (s : MState) (k : Key) : Bool := ((s.slots k).bind (·.file)).isSome
def memOn (s : MState) (k : Key) : Bool := ((s.slots k).bind (·.mem)).isSome

/-- trace `k` holds the same lines, in the same places, in `s'` as in `s` -/
def SameAt (s s' : MState) (k : Key) : Prop :=
  content s' k = content s k ∧ memAll s' k = memAll s k ∧ fileOn s' k = fileOn s k ∧ memOn s' k = memOn s k

theorem lines_congr {s s' : MState} {k : Key} (hs : s'.slots k = s.slots k) (hd : s'.disk k = s.disk k)
    (hc : s'.consumed k = s.consumed k) : SameAt s s' k := by
  simp only [SameAt, content, memAll, fileOn, memOn, hs, hd, hc, and_self]

theorem writeTrace_content (s : MState) (k : Key) (sl : Slot) (buf : List Line)
    (hs : s.slots k = some sl) (hf : sl.file = some buf) (k' : Key) : SameAt s (writeTrace s k) k' := by
  unfold writeTrace
  simp only [hs, hf]
  by_cases hk : k' = k
  · subst hk; simp [SameAt, content, memAll, fileOn, memOn, hs, hf]
  · exact lines_congr (upd_other _ _ _ _ hk) (upd_other _ _ _ _ hk) rfl

/-- `s'` holds the same lines as `s` in every trace -/
def SameLines (s s' : MState) : Prop :=
  s'.restarted = s.restarted ∧ ∀ k, SameAt s s' k

theorem SameLines.of_congr {s s' : MState} (hr : s'.restarted = s.restarted) (hs : s'.slots = s.slots)
    (hd : s'.disk = s.disk) (hc : s'.consumed = s.consumed) : SameLines s s' :=
  ⟨hr, fun k => lines_congr (by rw [hs]) (by rw [hd]) (by rw [hc])⟩

theorem SameLines.trans {s s' s'' : MState} (h1 : SameLines s s') (h2 : SameLines s' s'') :
    SameLines s s'' := by
  refine ⟨h2.1.trans h1.1, fun k => ?_⟩
  obtain ⟨a1, a2, a3, a4⟩ := h1.2 k
  obtain ⟨b1, b2, b3, b4⟩ := h2.2 k
  exact ⟨b1.trans a1, b2.trans a2, b3.trans a3, b4.trans a4⟩

theorem writeTrace_same (s : MState) (k : Key) (sl : Slot) (buf : List Line)
    (hs : s.slots k = some sl) (hf : sl.file = some buf) : SameLines s (writeTrace s k) :=
  ⟨by simp only [writeTrace, hs, hf], writeTrace_content s k sl buf hs hf⟩

/-- `s'` holds the lines of `s` and, in the traces of `k` that exist, one more -/
def AddsLine (s s' : MState) (k : Key) (l : Option Line) : Prop :=
  s'.restarted = s.restarted ∧ ∀ k', content s' k' = content s k' ++ (if k' = k ∧ fileOn s k' then l.toList else []) ∧
    memAll s' k' = memAll s k' ++ (if k' = k ∧ memOn s k' then l.toList else []) ∧
    fileOn s' k' = fileOn s k' ∧ memOn s' k' = memOn s k'

theorem AddsLine.same {s s' s'' : MState} {k : Key} {l : Option Line} (h1 : AddsLine s s' k l)
    (h2 : SameLines s' s'') : AddsLine s s'' k l := by
  refine ⟨h2.1.trans h1.1, fun k' => ?_⟩
  obtain ⟨a1, a2, a3, a4⟩ := h1.2 k'
  obtain ⟨b1, b2, b3, b4⟩ := h2.2 k'
  exact ⟨b1.trans a1, b2.trans a2, b3.trans a3, b4.trans a4⟩

/-- the state after `file_trace.append(data)` / `mem_trace.append(data)` -/
def appendLine (s : MState) (k : Key) (x : Slot) (data : Line) : MState :=
  { s with slots := upd s.slots k (some { x with file := x.file.map (· ++ [data]), mem := x.mem.map (· ++ [data]) }) }

theorem appendLine_lines (s : MState) (k : Key) (x : Slot) (data : Line) (hs : s.slots k = some x) :
    AddsLine s (appendLine s k x data) k (some data) := by
  refine ⟨rfl, fun k' => ?_⟩
  unfold appendLine
  by_cases hk : k' = k
  · subst hk
    simp only [content, memAll, fileOn, memOn, upd_same, hs, Option.bind_some, Option.isSome_map, true_and,
      Option.toList_some]
    constructor
    · cases hx : x.file <;> simp [List.append_assoc]
    · cases hy : x.mem <;> simp [List.append_assoc]
  · simp [content, memAll, fileOn, memOn, upd_other _ _ _ _ hk, hk]

/-- `addUse` up to the point where it decides whether to write the buffer out -/
def addUse0 (st : MState) (r : String) (c pos : Int) (ty : String) (ovr : Option (List Nat)) : MState :=
  match levelOf st r with
  | none => { st with fault := true }
  | some i =>
    let st1 := if r ∈ st.loopOrder then { st with point := st.point.set i c } else st
    match st1.slots (r, ty) with
    | none => st1
    | some x => appendLine st1 (r, ty) x (dataRow (ovr.getD st1.iteration) st1.point i c pos)

/-- `addUse` is `addUse0`, after which a buffer of `num_cached_uses` lines is written out, or not -/
theorem addUse_flush (s : MState) (r : String) (c pos : Int) (ty : String) (ovr : Option (List Nat)) :
    addUse s r c pos ty ovr = addUse0 s r c pos ty ovr ∨
    ∃ x buf, (addUse0 s r c pos ty ovr).slots (r, ty) = some x ∧ x.file = some buf ∧
      addUse s r c pos ty ovr = writeTrace (addUse0 s r c pos ty ovr) (r, ty) := by
  unfold addUse addUse0
  cases levelOf s r with
  | none => exact Or.inl rfl
  | some i =>
    dsimp only
    generalize (if r ∈ s.loopOrder then { s with point := s.point.set i c } else s) = s1
    cases hsl : s1.slots (r, ty) with
    | none => exact Or.inl rfl
    | some x =>
      dsimp only [appendLine]
      cases hx : x.file with
      | none => exact Or.inl rfl
      | some bx =>
        dsimp only [Option.map_some]
        split
        · exact Or.inr ⟨_, _, upd_same _ _ _, rfl, rfl⟩
        · exact Or.inl rfl

/-- the row `addUse` builds (if the rank is known) -/
def useLine (s : MState) (r : String) (c pos : Int) (ovr : Option (List Nat)) : Option Line :=
  (levelOf s r).map (fun i =>
    dataRow (ovr.getD s.iteration) (if r ∈ s.loopOrder then s.point.set i c else s.point) i c pos)

theorem addUse0_lines (s : MState) (r : String) (c pos : Int) (ty : String) (ovr : Option (List Nat)) :
    AddsLine s (addUse0 s r c pos ty ovr) (r, ty) (useLine s r c pos ovr) := by
  refine ⟨?_, fun k' => ?_⟩
  · unfold addUse0
    split
    · rfl
    · dsimp only; split <;> split <;> rfl
  unfold addUse0 useLine
  cases hl : levelOf s r with
  | none =>
    simp only [Option.map_none, Option.toList_none, ite_self, List.append_nil]
    exact lines_congr rfl rfl rfl
  | some i =>
    simp only [Option.map_some, Option.toList_some]
    generalize hs1 : (if r ∈ s.loopOrder then { s with point := s.point.set i c } else s) = s1
    have e1 : s1.slots = s.slots ∧ s1.disk = s.disk ∧ s1.consumed = s.consumed ∧ s1.iteration = s.iteration ∧
        s1.point = (if r ∈ s.loopOrder then s.point.set i c else s.point) := by
      subst hs1; split <;> exact ⟨rfl, rfl, rfl, rfl, rfl⟩
    obtain ⟨es, ed, ec, ei, ep⟩ := e1
    obtain ⟨hc, hm, hfo, hmo⟩ := lines_congr (s := s) (s' := s1) (k := k') (by rw [es]) (by rw [ed]) (by rw [ec])
    rw [← hc, ← hm, ← hfo, ← hmo, ← ei, ← ep]
    cases hsl : s1.slots (r, ty) with
    | none =>
      dsimp only
      by_cases hk : k' = (r, ty)
      · subst hk; simp [fileOn, memOn, hsl]
      · simp [hk]
    | some x => exact (appendLine_lines s1 (r, ty) x _ hsl).2 k'

theorem addUse_lines (s : MState) (r : String) (c pos : Int) (ty : String) (ovr : Option (List Nat)) :
    AddsLine s (addUse s r c pos ty ovr) (r, ty) (useLine s r c pos ovr) := by
  rcases addUse_flush s r c pos ty ovr with e | ⟨x, bx, hx, hbx, e⟩ <;> rw [e]
  · exact addUse0_lines s r c pos ty ovr
  · exact (addUse0_lines s r c pos ty ovr).same (writeTrace_same _ (r, ty) x bx hx hbx)

theorem declTrace_other (s : MState) (r ty : String) (c : Bool) {k' : Key} (hk : k' ≠ (r, ty)) :
    SameAt s (declTrace s r ty c) k' :=
  lines_congr (upd_other _ _ _ _ hk) rfl rfl

theorem declTrace_nil (s : MState) (r ty : String) (c : Bool)
    (hc : content s (r, ty) = []) (hm : memAll s (r, ty) = []) :
    content (declTrace s r ty c) (r, ty) = [] ∧ memAll (declTrace s r ty c) (r, ty) = [] := by
  obtain ⟨e0, e1⟩ := List.append_eq_nil_iff.1 hc
  obtain ⟨e2, e3⟩ := List.append_eq_nil_iff.1 hm
  simp only [declTrace, content, memAll, upd_same, Option.bind_some, e0, e2, List.nil_append]
  -- the new slot has an empty buffer where the trace is (re)declared and keeps the old, empty one elsewhere
  cases hs : s.slots (r, ty) <;> cases c <;> simp_all

theorem declTrace_restarted (s : MState) (r ty : String) (c : Bool) (hr : (declTrace s r ty c).restarted = false) :
    s.restarted = false ∧ content s (r, ty) = [] ∧ memAll s (r, ty) = [] := by
  simp only [declTrace, Bool.or_eq_false_iff, Bool.not_eq_false', List.isEmpty_iff] at hr
  exact ⟨hr.1.1.1, hr.1.1.2, hr.1.2⟩

theorem startTrace_fault {s : MState} {k : Key} (h : levelOf s k.1 = none ∨ s.slots k = none) :
    startTrace s k = { s with fault := true } := by
  unfold startTrace
  rcases h with h | h
  · rw [h]
  · rw [h]; split <;> rfl

theorem startTrace_eq {s : MState} {k : Key} {i : Nat} {x : Slot} (hl : levelOf s k.1 = some i)
    (hs : s.slots k = some x) :
    startTrace s k =
      { s with disk := if x.file.isSome then upd s.disk k (some []) else s.disk,
               slots := upd s.slots k (some ⟨x.file.map (· ++ [headerOf (s.loopOrder.take (i + 1))]),
                 x.mem.map (· ++ [headerOf (s.loopOrder.take (i + 1))]), true⟩),
               restarted := s.restarted || !(content s k).isEmpty || !(memAll s k).isEmpty } := by
  unfold startTrace
  rw [hl, hs]

theorem startTrace_other (s : MState) {k k' : Key} (hk : k' ≠ k) : SameAt s (startTrace s k) k' := by
  unfold startTrace
  split
  · exact lines_congr rfl rfl rfl
  · split
    · exact lines_congr rfl rfl rfl
    · refine lines_congr (upd_other _ _ _ _ hk) ?_ rfl
      dsimp only
      split
      · exact upd_other _ _ _ _ hk
      · rfl

theorem startTrace_header (s : MState) (k : Key) (x : Slot) (i : Nat)
    (hs : s.slots k = some x) (hl : levelOf s k.1 = some i)
    (hc : content s k = []) (hm : memAll s k = []) :
    content (startTrace s k) k = (if x.file.isSome then [headerOf (s.loopOrder.take (i + 1))] else []) ∧
    memAll (startTrace s k) k = (if x.mem.isSome then [headerOf (s.loopOrder.take (i + 1))] else []) := by
  obtain ⟨e0, e1⟩ := List.append_eq_nil_iff.1 hc
  obtain ⟨e2, e3⟩ := List.append_eq_nil_iff.1 hm
  simp only [hs, Option.bind_some] at e1 e3
  rw [startTrace_eq hl hs]
  simp only [content, memAll, upd_same, Option.bind_some, e2, List.nil_append]
  -- the file part and the memory part are independent
  constructor
  · cases hx : x.file with
    | none => simp [e0]
    | some b => rw [hx] at e1; simp_all
  · cases hy : x.mem with
    | none => rfl
    | some m => rw [hy] at e3; simp_all

theorem startTrace_restarted {s : MState} {k : Key} {i : Nat} {x : Slot} (hl : levelOf s k.1 = some i)
    (hs : s.slots k = some x) (hr : (startTrace s k).restarted = false) :
    s.restarted = false ∧ content s k = [] ∧ memAll s k = [] := by
  rw [startTrace_eq hl hs] at hr
  simp only [Bool.or_eq_false_iff, Bool.not_eq_false', List.isEmpty_iff] at hr
  exact ⟨hr.1.1, hr.1.2, hr.2⟩

theorem startTrace_on (s : MState) (k k' : Key) :
    fileOn (startTrace s k) k' = fileOn s k' ∧ memOn (startTrace s k) k' = memOn s k' := by
  by_cases hk : k' = k
  · subst hk
    cases hl : levelOf s k'.1 with
    | none => rw [startTrace_fault (Or.inl hl)]; exact ⟨rfl, rfl⟩
    | some i =>
      cases hs : s.slots k' with
      | none => rw [startTrace_fault (Or.inr hs)]; exact ⟨rfl, rfl⟩
      | some x =>
        rw [startTrace_eq hl hs]
        simp only [fileOn, memOn, upd_same, hs, Option.bind_some, Option.isSome_map, and_self]
  · exact (startTrace_other s hk).2.2

/-- `consumeTrace` only moves memory lines to its caller -/
theorem consumeTrace_same (s : MState) (k : Key) : SameLines s (consumeTrace s k) := by
  unfold consumeTrace
  cases hs : s.slots k with
  | none => exact .of_congr rfl rfl rfl rfl
  | some x =>
    cases hx : x.mem with
    | none => simp only [hx]; exact .of_congr rfl rfl rfl rfl
    | some m =>
      simp only [hx]
      refine ⟨rfl, fun k' => ?_⟩
      by_cases hk : k' = k
      · subst hk; simp [SameAt, content, memAll, fileOn, memOn, hs, hx]
      · exact lines_congr (upd_other _ _ _ _ hk) rfl (upd_other _ _ _ _ hk)

/-- one round of the loop in `endCollect` -/
def ecStep (s : MState) (k : Key) : MState :=
  match s.slots k with
  | some sl =>
    let s1 := if sl.file.isSome then writeTrace s k else s
    match sl.mem with
    | some (_ :: _) => { s1 with fault := true }
    | _ => s1
  | none => s

theorem endCollect_eq (s : MState) : endCollect s = s.declared.foldl ecStep s := rfl

theorem ecStep_same (s : MState) (k : Key) : SameLines s (ecStep s k) := by
  unfold ecStep
  cases hs : s.slots k with
  | none => exact .of_congr rfl rfl rfl rfl
  | some x =>
    dsimp only
    have h1 : SameLines s (if x.file.isSome then writeTrace s k else s) := by
      cases hx : x.file with
      | none => exact .of_congr rfl rfl rfl rfl
      | some b => exact writeTrace_same s k x b hs hx
    split
    · exact h1.trans (.of_congr rfl rfl rfl rfl)
    · exact h1

theorem endCollect_same (s : MState) : SameLines s (endCollect s) := by
  rw [endCollect_eq]
  exact List.foldlRecOn (motive := fun s' => SameLines s s') _ ecStep (.of_congr rfl rfl rfl rfl)
    (fun b hb a _ => hb.trans (ecStep_same b a))

theorem step_same (s : MState) (e : Ev)
    (he : match e with | .inc _ => True | .endI _ => True | .consume _ _ => True
                       | .endCollect => True | _ => False) : SameLines s (step s e) := by
  cases e with
  | inc r | endI r => simp only [step, incIter, endIter]; split <;> exact .of_congr rfl rfl rfl rfl
  | consume r ty => exact consumeTrace_same s (r, ty)
  | endCollect => exact endCollect_same s
  | _ => exact he.elim

/-- the parts of a slot that do not depend on when buffers were flushed -/
def SlotSim : Option Slot → Option Slot → Prop
  | none, none => True
  | some x, some y => x.mem = y.mem ∧ x.file.isSome = y.file.isSome
  | _, _ => False

theorem SlotSim.refl (a : Option Slot) : SlotSim a a := by
  cases a <;> simp [SlotSim]

theorem SlotSim.symm {a b : Option Slot} (h : SlotSim a b) : SlotSim b a := by
  cases a <;> cases b <;> simp_all [SlotSim]

theorem SlotSim.cases {a b : Option Slot} (h : SlotSim a b) :
    (a = none ∧ b = none) ∨ ∃ x y, a = some x ∧ b = some y ∧ x.mem = y.mem ∧ x.file.isSome = y.file.isSome := by
  cases a <;> cases b
  · exact Or.inl ⟨rfl, rfl⟩
  · exact h.elim
  · exact h.elim
  · exact Or.inr ⟨_, _, rfl, rfl, h⟩

theorem SlotSim.isSome {a b : Option Slot} (h : SlotSim a b) : a.isSome = b.isSome := by
  cases a <;> cases b <;> simp_all [SlotSim]

structure Sim (s t : MState) : Prop where
  iteration : s.iteration = t.iteration
  point : s.point = t.point
  loopOrder : s.loopOrder = t.loopOrder
  allMatches : s.allMatches = t.allMatches
  rankMatches : s.rankMatches = t.rankMatches
  declared : s.declared = t.declared
  consumed : s.consumed = t.consumed
  fault : s.fault = t.fault
  restarted : s.restarted = t.restarted
  slots : ∀ k, SlotSim (s.slots k) (t.slots k)
  cont : s.restarted = false → ∀ k, content s k = content t k

theorem Sim.symm {s t : MState} (h : Sim s t) : Sim t s :=
  ⟨h.iteration.symm, h.point.symm, h.loopOrder.symm, h.allMatches.symm, h.rankMatches.symm,
   h.declared.symm, h.consumed.symm, h.fault.symm, h.restarted.symm, fun k => (h.slots k).symm,
   fun hr k => (h.cont (by rw [h.restarted]; exact hr) k).symm⟩

theorem Sim.levelOf_sim {s t : MState} (h : Sim s t) (r : String) : levelOf s r = levelOf t r := by
  have hl : lineOrder s = lineOrder t := by funext r; simp [lineOrder, h.loopOrder]
  simp [levelOf, hl, h.rankMatches]

theorem Sim.memAll_sim {s t : MState} (h : Sim s t) (k : Key) : memAll s k = memAll t k := by
  have := h.slots k
  unfold memAll
  rw [h.consumed]
  cases hs : s.slots k <;> cases ht : t.slots k <;> simp_all [SlotSim]

theorem Sim.fileOn_sim {s t : MState} (h : Sim s t) (k : Key) : fileOn s k = fileOn t k := by
  unfold fileOn
  rcases (h.slots k).cases with ⟨e1, e2⟩ | ⟨x, y, e1, e2, _, hf⟩
  · rw [e1, e2]
  · rw [e1, e2]; exact hf

theorem Sim.contentEmpty {s t : MState} (h : Sim s t) (k : Key) :
    (s.restarted || !(content s k).isEmpty) = (t.restarted || !(content t k).isEmpty) := by
  cases hr : s.restarted with
  | true => simp [← h.restarted, hr]
  | false => rw [← h.restarted, hr, h.cont hr k]

theorem Sim.setFault {s t : MState} (h : Sim s t) : Sim { s with fault := true } { t with fault := true } :=
  { h with fault := rfl }

theorem Sim.slots_upd {s t : MState} (h : Sim s t) (k : Key) {x y : Slot} (hxy : SlotSim (some x) (some y))
    (k' : Key) : SlotSim (upd s.slots k (some x) k') (upd t.slots k (some y) k') := by
  by_cases hk : k' = k
  · subst hk; rw [upd_same, upd_same]; exact hxy
  · rw [upd_other _ _ _ _ hk, upd_other _ _ _ _ hk]; exact h.slots k'

theorem Sim.ite {c c' : Prop} [Decidable c] [Decidable c'] {a a' b b' : MState} (hc : c ↔ c')
    (h1 : c → Sim a b) (h2 : ¬ c → Sim a' b') : Sim (if c then a else a') (if c' then b else b') := by
  by_cases h : c
  · rw [if_pos h, if_pos (hc.1 h)]; exact h1 h
  · rw [if_neg h, if_neg (mt hc.2 h)]; exact h2 h

/-- flushing one side changes nothing that `Sim` looks at -/
theorem Sim.writeLeft {s t : MState} (h : Sim s t) (k : Key) (sl : Slot) (buf : List Line)
    (hs : s.slots k = some sl) (hf : sl.file = some buf) : Sim (writeTrace s k) t := by
  have hcont : s.restarted = false → ∀ k', content (writeTrace s k) k' = content t k' :=
    fun hr k' => (writeTrace_content s k sl buf hs hf k').1.trans (h.cont hr k')
  unfold writeTrace at hcont ⊢
  simp only [hs, hf] at hcont ⊢
  refine { h with slots := fun k' => ?_, cont := hcont }
  by_cases hk : k' = k
  · subst hk
    have := h.slots k'
    rw [hs] at this
    rcases this.cases with ⟨e, _⟩ | ⟨x, y, e1, e2, hm, hfs⟩
    · cases e
    · cases e1
      simp only [upd_same, e2]
      exact ⟨hm, by rw [← hfs, hf]; rfl⟩
  · simp only [upd_other _ _ _ _ hk]; exact h.slots k'

theorem Sim.writeRight {s t : MState} (h : Sim s t) (k : Key) (sl : Slot) (buf : List Line)
    (hs : t.slots k = some sl) (hf : sl.file = some buf) : Sim s (writeTrace t k) :=
  (h.symm.writeLeft k sl buf hs hf).symm

theorem Sim.appendRow {s t : MState} (h : Sim s t) (k : Key) (x y : Slot) (data : Line)
    (hs : s.slots k = some x) (ht : t.slots k = some y) :
    Sim (appendLine s k x data) (appendLine t k y data) := by
  have hk := h.slots k
  rw [hs, ht] at hk
  have hcont : s.restarted = false → ∀ k', content (appendLine s k x data) k' = content (appendLine t k y data) k' := by
    intro hr k'
    rw [((appendLine_lines s k x data hs).2 k').1, ((appendLine_lines t k y data ht).2 k').1, h.cont hr k', h.fileOn_sim]
  unfold appendLine at hcont ⊢
  exact { h with slots := h.slots_upd k ⟨congrArg (Option.map _) hk.1, by simp only [Option.isSome_map, hk.2]⟩,
                 cont := hcont }

theorem Sim.addUse0_sim {s t : MState} (h : Sim s t) (r : String) (c pos : Int) (ty : String) (ovr : Option (List Nat)) :
    Sim (addUse0 s r c pos ty ovr) (addUse0 t r c pos ty ovr) := by
  unfold addUse0
  rw [← h.levelOf_sim r]
  cases hl : levelOf s r with
  | none => exact h.setFault
  | some i =>
    dsimp only
    have h1 : Sim (if r ∈ s.loopOrder then { s with point := s.point.set i c } else s)
                  (if r ∈ t.loopOrder then { t with point := t.point.set i c } else t) :=
      Sim.ite (by rw [h.loopOrder]) (fun _ => by rw [← h.point]; exact { h with point := rfl }) (fun _ => h)
    generalize (if r ∈ s.loopOrder then { s with point := s.point.set i c } else s) = s1 at h1 ⊢
    generalize (if r ∈ t.loopOrder then { t with point := t.point.set i c } else t) = t1 at h1 ⊢
    rcases (h1.slots (r, ty)).cases with ⟨e1, e2⟩ | ⟨x, y, e1, e2, _, _⟩
    · rw [e1, e2]; exact h1
    · rw [e1, e2, ← h1.iteration, ← h1.point]
      exact h1.appendRow (r, ty) x y _ e1 e2

theorem Sim.addUse_sim {s t : MState} (h : Sim s t) (r : String) (c pos : Int) (ty : String) (ovr : Option (List Nat)) :
    Sim (addUse s r c pos ty ovr) (addUse t r c pos ty ovr) := by
  have h0 := h.addUse0_sim r c pos ty ovr
  rcases addUse_flush s r c pos ty ovr with e | ⟨x, bx, hx, hbx, e⟩ <;>
    rcases addUse_flush t r c pos ty ovr with e' | ⟨y, by', hy, hby, e'⟩ <;> rw [e, e']
  · exact h0
  · exact h0.writeRight _ y by' hy hby
  · exact h0.writeLeft _ x bx hx hbx
  · exact (h0.writeLeft _ x bx hx hbx).writeRight _ y by' hy hby

/-- `incIter` / `endIter`: the same change to `iteration` on both sides -/
theorem Sim.iter_sim {s t : MState} (h : Sim s t) (r : String) (f : Nat → List Nat → List Nat) :
    Sim (match levelOf s r with | some i => { s with iteration := f i s.iteration } | none => { s with fault := true })
        (match levelOf t r with | some i => { t with iteration := f i t.iteration } | none => { t with fault := true }) := by
  rw [← h.levelOf_sim r]
  cases levelOf s r with
  | none => exact h.setFault
  | some i => exact { h with iteration := congrArg (f i) h.iteration }

theorem Sim.consumeTrace_sim {s t : MState} (h : Sim s t) (k : Key) : Sim (consumeTrace s k) (consumeTrace t k) := by
  have hcont : s.restarted = false → ∀ k', content (consumeTrace s k) k' = content (consumeTrace t k) k' :=
    fun hr k' => by rw [((consumeTrace_same s k).2 k').1, ((consumeTrace_same t k).2 k').1]; exact h.cont hr k'
  unfold consumeTrace at hcont ⊢
  rcases (h.slots k).cases with ⟨e1, e2⟩ | ⟨x, y, e1, e2, hm, hf⟩
  · rw [e1, e2]; exact h.setFault
  · rw [e1, e2] at hcont ⊢
    dsimp only at hcont ⊢
    rw [← hm] at hcont ⊢
    cases hx : x.mem with
    | none => exact h.setFault
    | some m =>
      rw [hx] at hcont
      rw [← h.consumed] at hcont ⊢
      exact { h with consumed := rfl, slots := h.slots_upd k ⟨rfl, hf⟩, cont := hcont }

theorem Sim.declTrace_sim {s t : MState} (h : Sim s t) (r ty : String) (c : Bool) :
    Sim (declTrace s r ty c) (declTrace t r ty c) := by
  have hre : (declTrace s r ty c).restarted = (declTrace t r ty c).restarted := by
    simp only [declTrace]
    rw [h.contentEmpty, h.memAll_sim, h.levelOf_sim]
  have hcont : (declTrace s r ty c).restarted = false →
      ∀ k', content (declTrace s r ty c) k' = content (declTrace t r ty c) k' := by
    intro hr k'
    obtain ⟨hr0, hc0, hm0⟩ := declTrace_restarted s r ty c hr
    obtain ⟨_, hc1, hm1⟩ := declTrace_restarted t r ty c (hre ▸ hr)
    by_cases hk : k' = (r, ty)
    · subst hk
      rw [(declTrace_nil s r ty c hc0 hm0).1, (declTrace_nil t r ty c hc1 hm1).1]
    · rw [(declTrace_other s r ty c hk).1, (declTrace_other t r ty c hk).1]
      exact h.cont hr0 k'
  unfold declTrace at hre hcont ⊢
  refine { h with declared := ?_, restarted := hre, slots := ?_, cont := hcont }
  · simp only [(h.slots (r, ty)).isSome, h.declared]
  · refine h.slots_upd (r, ty) ?_
    rcases (h.slots (r, ty)).cases with ⟨e1, e2⟩ | ⟨x, y, e1, e2, hm, hf⟩ <;> rw [e1, e2] <;> cases c
    · exact ⟨rfl, rfl⟩
    · exact ⟨rfl, rfl⟩
    · exact ⟨hm, rfl⟩
    · exact ⟨rfl, hf⟩

theorem Sim.startTrace_sim {s t : MState} (h : Sim s t) (k : Key) : Sim (startTrace s k) (startTrace t k) := by
  have hlt := h.levelOf_sim k.1
  cases hl : levelOf s k.1 with
  | none => rw [startTrace_fault (Or.inl hl), startTrace_fault (Or.inl (hlt ▸ hl))]; exact h.setFault
  | some i =>
    rcases (h.slots k).cases with ⟨e1, e2⟩ | ⟨x, y, e1, e2, hm, hf⟩
    · rw [startTrace_fault (Or.inr e1), startTrace_fault (Or.inr e2)]; exact h.setFault
    · have hl' : levelOf t k.1 = some i := hlt ▸ hl
      have hcont : (startTrace s k).restarted = false → (startTrace t k).restarted = false →
          ∀ k', content (startTrace s k) k' = content (startTrace t k) k' := by
        intro hr hr' k'
        obtain ⟨hr0, hc0, hm0⟩ := startTrace_restarted hl e1 hr
        obtain ⟨_, hc1, hm1⟩ := startTrace_restarted hl' e2 hr'
        by_cases hk : k' = k
        · subst hk
          rw [(startTrace_header s k' x i e1 hl hc0 hm0).1, (startTrace_header t k' y i e2 hl' hc1 hm1).1,
            h.loopOrder, hf]
        · rw [(startTrace_other s hk).1, (startTrace_other t hk).1]
          exact h.cont hr0 k'
      have hre : (s.restarted || !(content s k).isEmpty || !(memAll s k).isEmpty) =
          (t.restarted || !(content t k).isEmpty || !(memAll t k).isEmpty) := by
        rw [h.contentEmpty, h.memAll_sim]
      rw [startTrace_eq hl e1, startTrace_eq hl' e2] at hcont ⊢
      exact { h with restarted := hre, cont := fun hr => hcont hr (hre ▸ hr),
                     slots := h.slots_upd k ⟨by rw [hm, h.loopOrder], by simp only [Option.isSome_map, hf]⟩ }

theorem Sim.foldl_sim {α : Type} (f g : MState → α → MState)
    (hf : ∀ s t a, Sim s t → Sim (f s a) (g t a)) (l : List α) :
    ∀ s t, Sim s t → Sim (l.foldl f s) (l.foldl g t) := by
  induction l with
  | nil => intro s t h; exact h
  | cons a l ih => intro s t h; exact ih _ _ (hf s t a h)

theorem Sim.startRank_sim {s t : MState} (h : Sim s t) (r : String) : Sim (startRank s r) (startRank t r) := by
  unfold startRank
  rw [← h.declared]
  exact Sim.foldl_sim _ _ (fun s t a h => h.startTrace_sim a) _ s t h

theorem Sim.registerRank_sim {s t : MState} (h : Sim s t) (r : String) : Sim (registerRank s r) (registerRank t r) := by
  unfold registerRank
  refine Sim.ite (by rw [h.loopOrder]) (fun _ => h) (fun _ => ?_)
  rw [← h.allMatches]
  apply Sim.foldl_sim
  · intro s' t' e h'
    split
    · exact Sim.startRank_sim (by exact { h' with rankMatches := by simp [h'.rankMatches] }) e.1
    · exact h'
  · apply Sim.startRank_sim
    exact { h with iteration := by simp [h.iteration], point := by simp [h.point],
                   loopOrder := by simp [h.loopOrder], allMatches := rfl }

theorem Sim.matchApplySrc_sim {s t : MState} (h : Sim s t) (r src : String) :
    Sim (matchApplySrc r s src) (matchApplySrc r t src) := by
  unfold matchApplySrc
  exact Sim.ite (by rw [h.loopOrder, h.rankMatches]) (fun _ => h)
    (fun _ => Sim.startRank_sim (by exact { h with rankMatches := by simp [h.rankMatches] }) src)

theorem Sim.matchApplyRank_sim {s t : MState} (h : Sim s t) (all : List String) (r : String) :
    Sim (matchApplyRank all s r) (matchApplyRank all t r) := by
  unfold matchApplyRank
  exact Sim.ite (by rw [h.loopOrder])
    (fun _ => Sim.foldl_sim _ _ (fun s t a h => h.matchApplySrc_sim r a) _ s t h) (fun _ => h)

theorem Sim.matchRanks_sim {s t : MState} (h : Sim s t) (a b : String) : Sim (matchRanks s a b) (matchRanks t a b) := by
  unfold matchRanks
  have e : matchClosure t a b = matchClosure s a b := by simp [matchClosure, h.allMatches]
  simp only [e]
  apply Sim.foldl_sim _ _ (fun s t r h => h.matchApplyRank_sim _ r)
  exact { h with allMatches := by simp [h.allMatches] }

theorem Sim.ecStep_sim {s t : MState} (h : Sim s t) (k : Key) : Sim (ecStep s k) (ecStep t k) := by
  unfold ecStep
  rcases (h.slots k).cases with ⟨e1, e2⟩ | ⟨x, y, e1, e2, hm, hf⟩
  · rw [e1, e2]; exact h
  · rw [e1, e2]
    dsimp only
    rw [← hm]
    have h1 : Sim (if x.file.isSome then writeTrace s k else s) (if y.file.isSome then writeTrace t k else t) := by
      rcases isSome_eq_cases hf with ⟨ex, ey⟩ | ⟨bx, b, ex, ey⟩
      · rw [ex, ey]; exact h
      · rw [ex, ey]; exact (h.writeLeft k x bx e1 ex).writeRight k y b e2 ey
    cases hmx : x.mem with
    | none => exact h1
    | some m =>
      cases m with
      | nil => exact h1
      | cons a m => exact h1.setFault

theorem Sim.endCollect_sim {s t : MState} (h : Sim s t) : Sim (endCollect s) (endCollect t) := by
  rw [endCollect_eq, endCollect_eq, ← h.declared]
  exact Sim.foldl_sim _ _ (fun s t k h => h.ecStep_sim k) _ s t h

theorem Sim.step_sim {s t : MState} (h : Sim s t) (e : Ev) : Sim (step s e) (step t e) := by
  cases e with
  | trace r ty c => exact h.declTrace_sim r ty c
  | matchR a b => exact h.matchRanks_sim a b
  | reg r => exact h.registerRank_sim r
  | use r c pos ty ovr => exact h.addUse_sim r c pos ty ovr
  | inc r => exact h.iter_sim r (fun i l => l.modify i (· + 1))
  | endI r => exact h.iter_sim r (fun i l => l.set i 0)
  | consume r ty => exact h.consumeTrace_sim (r, ty)
  | endCollect => exact h.endCollect_sim

theorem Sim.run_sim {s t : MState} (h : Sim s t) (evs : List Ev) : Sim (run s evs) (run t evs) := by
  unfold run
  exact Sim.foldl_sim _ _ (fun s t e h => h.step_sim e) evs s t h

theorem Sim.init (n m : Nat) : Sim (init n) (init m) := by
  refine ⟨rfl, rfl, rfl, rfl, rfl, rfl, rfl, rfl, rfl, ?_, ?_⟩
  · intro k; simp [C16.init, SlotSim]
  · intro _ k; simp [C16.init, content]

/-- a trace kept both in a file and in memory holds the same lines in both -/
def MF (s : MState) : Prop :=
  s.restarted = false → ∀ k, fileOn s k = true → memOn s k = true → content s k = memAll s k

theorem MF.same {s s' : MState} (h : MF s) (hl : SameLines s s') : MF s' := by
  intro hr k hf hm
  obtain ⟨e1, e2, e3, e4⟩ := hl.2 k
  rw [e1, e2]
  exact h (hl.1 ▸ hr) k (e3 ▸ hf) (e4 ▸ hm)

theorem MF.setFault {s : MState} (h : MF s) : MF { s with fault := true } :=
  h.same (.of_congr rfl rfl rfl rfl)

theorem MF.adds {s s' : MState} {k : Key} {l : Option Line} (h : MF s) (ha : AddsLine s s' k l) : MF s' := by
  intro hr k' hf hm
  obtain ⟨e1, e2, e3, e4⟩ := ha.2 k'
  rw [e3] at hf; rw [e4] at hm
  rw [e1, e2, h (ha.1 ▸ hr) k' hf hm, hf, hm]

theorem MF.foldl_mf {α : Type} (f : MState → α → MState) (hf : ∀ s a, MF s → MF (f s a)) (l : List α) :
    ∀ s, MF s → MF (l.foldl f s) :=
  fun _ h => List.foldlRecOn l f h (fun b hb a _ => hf b a hb)

theorem MF.declTrace_mf {s : MState} (h : MF s) (r ty : String) (c : Bool) : MF (declTrace s r ty c) := by
  intro hr k' hf hm
  obtain ⟨hr0, hc0, hm0⟩ := declTrace_restarted s r ty c hr
  by_cases hk : k' = (r, ty)
  · subst hk
    obtain ⟨e1, e2⟩ := declTrace_nil s r ty c hc0 hm0
    rw [e1, e2]
  · obtain ⟨e1, e2, e3, e4⟩ := declTrace_other s r ty c hk
    rw [e1, e2]
    exact h hr0 k' (e3 ▸ hf) (e4 ▸ hm)

theorem MF.startTrace_mf {s : MState} (h : MF s) (k : Key) : MF (startTrace s k) := by
  cases hl : levelOf s k.1 with
  | none => rw [startTrace_fault (Or.inl hl)]; exact h.setFault
  | some i =>
    cases hs : s.slots k with
    | none => rw [startTrace_fault (Or.inr hs)]; exact h.setFault
    | some x =>
      intro hr k' hf hm
      obtain ⟨hr0, hc0, hm0⟩ := startTrace_restarted hl hs hr
      rw [(startTrace_on s k k').1] at hf
      rw [(startTrace_on s k k').2] at hm
      by_cases hk : k' = k
      · subst hk
        obtain ⟨e1, e2⟩ := startTrace_header s k' x i hs hl hc0 hm0
        simp only [fileOn, memOn, hs, Option.bind_some] at hf hm
        rw [e1, e2, hf, hm]
      · rw [(startTrace_other s hk).1, (startTrace_other s hk).2.1]
        exact h hr0 k' hf hm

theorem MF.startRank_mf {s : MState} (h : MF s) (r : String) : MF (startRank s r) := by
  unfold startRank
  exact MF.foldl_mf _ (fun s a h => h.startTrace_mf a) _ s h

theorem MF.registerRank_mf {s : MState} (h : MF s) (r : String) : MF (registerRank s r) := by
  unfold registerRank
  split
  · exact h
  · apply MF.foldl_mf
    · intro s' e h'
      split
      · refine MF.startRank_mf ?_ _
        exact h'.same (.of_congr rfl rfl rfl rfl)
      · exact h'
    · refine MF.startRank_mf ?_ _
      exact h.same (.of_congr rfl rfl rfl rfl)

theorem MF.matchRanks_mf {s : MState} (h : MF s) (a b : String) : MF (matchRanks s a b) := by
  unfold matchRanks
  apply MF.foldl_mf
  · intro s' r h'
    unfold matchApplyRank
    split
    · apply MF.foldl_mf _ _ _ _ h'
      intro s'' src h''
      unfold matchApplySrc
      split
      · exact h''
      · refine MF.startRank_mf ?_ _
        exact h''.same (.of_congr rfl rfl rfl rfl)
    · exact h'
  · exact h.same (.of_congr rfl rfl rfl rfl)

theorem MF.step_mf {s : MState} (h : MF s) (e : Ev) : MF (step s e) := by
  cases e with
  | trace r ty c => exact h.declTrace_mf r ty c
  | matchR a b => exact h.matchRanks_mf a b
  | reg r => exact h.registerRank_mf r
  | use r c pos ty ovr => exact h.adds (addUse_lines s r c pos ty ovr)
  | inc r | endI r | consume r ty | endCollect => exact h.same (step_same s _ trivial)

theorem MF.run_mf {s : MState} (h : MF s) (evs : List Ev) : MF (run s evs) := by
  unfold run
  exact MF.foldl_mf _ (fun s e h => h.step_mf e) evs s h

theorem MF.init (n : Nat) : MF (init n) := by
  intro _ k hf; simp [fileOn, C16.init] at hf

def Flushed (s : MState) (k : Key) : Prop := s.disk k = some (content s k)

theorem ecStep_flushed (s : MState) (k k' : Key) (hf : fileOn s k = true) (h : k' = k ∨ Flushed s k) :
    Flushed (ecStep s k') k := by
  unfold Flushed
  rw [((ecStep_same s k').2 k).1]
  unfold ecStep
  cases hs : s.slots k' with
  | none =>
    rcases h with rfl | h
    · simp [fileOn, hs] at hf
    · exact h
  | some x =>
    dsimp only
    have h1 : (if x.file.isSome then writeTrace s k' else s).disk k = some (content s k) := by
      cases hx : x.file with
      | none =>
        rcases h with rfl | h
        · simp [fileOn, hs, hx] at hf
        · exact h
      | some b =>
        simp only [Option.isSome_some, if_true, writeTrace, hs, hx]
        by_cases hk : k = k'
        · subst hk; simp [content, hs, hx]
        · rw [upd_other _ _ _ _ hk]; exact h.resolve_left (fun e => hk e.symm)
    split
    · exact h1
    · exact h1

theorem ecFold_flushed (k : Key) (l : List Key) : ∀ s : MState, fileOn s k = true →
    (k ∈ l ∨ Flushed s k) → Flushed (l.foldl ecStep s) k := by
  induction l with
  | nil => intro s _ h; exact h.resolve_left List.not_mem_nil
  | cons a l ih =>
    intro s hf h
    refine ih (ecStep s a) (((ecStep_same s a).2 k).2.2.1.trans hf) ?_
    rcases h with h | h
    · rcases List.mem_cons.1 h with h | h
      · exact Or.inr (ecStep_flushed s k a hf (Or.inl h.symm))
      · exact Or.inl h
    · exact Or.inr (ecStep_flushed s k a hf (Or.inr h))

theorem endCollect_disk (s : MState) (k : Key) (hd : k ∈ s.declared) (hf : fileOn s k = true) :
    (endCollect s).disk k = some (content s k) := by
  have h := ecFold_flushed k s.declared s hf (Or.inl hd)
  rw [Flushed, ← endCollect_eq, ((endCollect_same s).2 k).1] at h
  exact h

end Ft.C16
