/-
  C15 lemmas: a structured session (file traces declared up front, then only loop-nest calls).
  The invariant `SInv`, the distinguished trace's row count `CntInv`, and their preservation.
-/
import FtProofs.Lemmas.MetricsLemmas
namespace Ft.C15

/-! ### the two static measures of a call list -/

theorem nUse_addUse (r ty r' t' : String) (c pos : Int) (itn : Option (List Int)) :
    nUse r ty [.addUse r' c pos t' itn] = if (r', t') = (r, ty) then 1 else 0 := by
  simp [nUse]

theorem nUse_append (r ty : String) (a b : List MOp) : nUse r ty (a ++ b) = nUse r ty a + nUse r ty b := by
  simp [nUse, List.countP_append]

theorem registers_append (r : String) (a b : List MOp) :
    registers r (a ++ b) = (registers r a || registers r b) := by
  simp [registers, List.contains_eq_mem, List.mem_append]

theorem registers_registerRank (r rank : String) : registers r [.registerRank rank] = (rank == r) := by
  by_cases h : rank = r
  · subst h; simp [registers]
  · simp [registers, h, Ne.symm h]

structure SInv (p : String) (s : MState) : Prop where
  coll : s.collecting = true
  pfx : s.pfx = some p
  arm : s.allRankMatches = []
  rm : s.rankMatches = []
  files : ∀ e ∈ s.traces, e.2.mem = none ∧ e.2.file.isSome = true
  nodup : (s.traces.map (·.1)).Nodup

def Untouched (p r ty : String) (s s' : MState) : Prop :=
  dget s'.traces (r, ty) = dget s.traces (r, ty) ∧ dget s'.fs (p, r, ty) = dget s.fs (p, r, ty)

theorem Untouched.refl (p r ty : String) (s : MState) : Untouched p r ty s s := ⟨rfl, rfl⟩
theorem Untouched.trans {p r ty : String} {a b c : MState} (h1 : Untouched p r ty a b) (h2 : Untouched p r ty b c) :
    Untouched p r ty a c := ⟨h2.1.trans h1.1, h2.2.trans h1.2⟩

theorem SInv.set {p : String} {s : MState} (hs : SInv p s) (k : TKey) {tr' : TraceSt}
    (hm : tr'.mem = none) (hf : tr'.file.isSome = true) (fs' : FS) :
    SInv p { s with fs := fs', traces := dset s.traces k tr' } :=
  ⟨hs.coll, hs.pfx, hs.arm, hs.rm,
    fun e he => (mem_dset _ _ _ _ he).elim (hs.files e) (fun h => h ▸ ⟨hm, hf⟩),
    nodup_keys_dset _ _ _ hs.nodup⟩

theorem SInv.entry {p : String} {s : MState} (hs : SInv p s) {k : TKey} {tr : TraceSt}
    (h : dget s.traces k = some tr) : tr.mem = none ∧ tr.file.isSome = true :=
  hs.files (k, tr) (dget_mem _ _ _ h)

theorem SInv.file {p : String} {s : MState} (hs : SInv p s) {k : TKey} {tr : TraceSt}
    (h : dget s.traces k = some tr) : ∃ f, tr.file = some f :=
  Option.isSome_iff_exists.1 (hs.entry h).2

theorem pair_ne {p r t r' t' : String} (h : (r', t') ≠ (r, t)) : (p, r, t) ≠ (p, r', t') :=
  fun e => h (Prod.mk.inj e).2.symm

theorem startTrace_sinv {p : String} {s s' : MState} {r t : String} (hs : SInv p s)
    (h : startTrace s r t = some s') : SInv p s' := by
  obtain ⟨i, lp, tr, fs', hi, hlp, htr, hfs, rfl⟩ := startTrace_some h
  obtain ⟨f, hf⟩ := hs.file htr
  exact hs.set _ (by rw [(hs.entry htr).1]; rfl) (by rw [hf]; rfl) fs'

theorem startTrace_other {p r ty : String} {s s' : MState} {r' t : String} (hs : SInv p s)
    (hne : (r', t) ≠ (r, ty)) (h : startTrace s r' t = some s') : Untouched p r ty s s' := by
  obtain ⟨i, lp, tr, fs', hi, hlp, htr, hfs, rfl⟩ := startTrace_some h
  refine ⟨dget_dset_ne _ _ (Ne.symm hne), ?_⟩
  obtain ⟨f, hf⟩ := hs.file htr
  rw [hf, hs.pfx] at hfs
  cases hfs
  exact dget_dset_ne _ _ (pair_ne hne)

theorem startTrace_self {p r ty : String} {s s' : MState} (hs : SInv p s) {c : List Row} {st : Bool}
    (htr : dget s.traces (r, ty) = some ⟨some c, none, st⟩) (h : startTrace s r ty = some s') :
    ∃ hd, dget s'.traces (r, ty) = some ⟨some (c ++ [hd]), none, true⟩ ∧ dget s'.fs (p, r, ty) = some [] := by
  obtain ⟨i, lp, tr, fs', hi, hlp, htr', hfs, rfl⟩ := startTrace_some h
  rw [htr] at htr'
  cases htr'
  simp only [hs.pfx, Option.map_some, Option.some.injEq] at hfs
  refine ⟨headerRow lp i, by simp [dget_dset_self], ?_⟩
  simp only
  rw [← hfs, dget_dset_self]

theorem writeTrace_sinv {p : String} {s s' : MState} {r t : String} (hs : SInv p s)
    (h : writeTrace s r t = some s') : SInv p s' := by
  obtain ⟨tr, q, f, htr, hp, hf, rfl⟩ := writeTrace_some h
  exact hs.set _ (tr' := { tr with file := some [], started := true }) (hs.entry htr).1 rfl _

theorem writeTrace_other {p r ty : String} {s s' : MState} {r' t : String} (hs : SInv p s)
    (hne : (r', t) ≠ (r, ty)) (h : writeTrace s r' t = some s') : Untouched p r ty s s' := by
  obtain ⟨tr, q, f, htr, hp, hf, rfl⟩ := writeTrace_some h
  cases hs.pfx.symm.trans hp
  exact ⟨dget_dset_ne _ _ (Ne.symm hne), dget_dset_ne _ _ (pair_ne hne)⟩

theorem writeTrace_self {p r ty : String} {s s' : MState} (hs : SInv p s) {c : List Row} {st : Bool}
    (htr : dget s.traces (r, ty) = some ⟨some c, none, st⟩) (h : writeTrace s r ty = some s') :
    dget s'.traces (r, ty) = some ⟨some [], none, true⟩ ∧
      dget s'.fs (p, r, ty) = some (fileBase s (p, r, ty) st ++ c) := by
  obtain ⟨tr, q, f, htr', hp, hf, rfl⟩ := writeTrace_some h
  cases hs.pfx.symm.trans hp
  rw [htr] at htr'; cases htr'; cases hf
  exact ⟨dget_dset_self _ _ _, dget_dset_self _ _ _⟩

theorem typesOf_keys (s : MState) (r : String) :
    (typesOf s r).map (fun t => (r, t)) = (s.traces.map (·.1)).filter (·.1 == r) := by
  unfold typesOf
  rw [List.map_map, List.filter_map]
  apply List.map_congr_left
  intro e he
  exact Prod.ext (eq_of_beq (List.mem_filter.1 he).2).symm rfl

theorem mem_typesOf (s : MState) (r t : String) : t ∈ typesOf s r ↔ dhas s.traces (r, t) = true := by
  unfold typesOf
  rw [dhas_iff_mem_keys]
  simp only [List.mem_map, List.mem_filter]
  constructor
  · rintro ⟨x, ⟨hx, hr⟩, rfl⟩
    exact ⟨x, hx, by apply Prod.ext; exact eq_of_beq hr; rfl⟩
  · rintro ⟨x, hx, hk⟩
    exact ⟨x, ⟨hx, by rw [hk]; simp⟩, by rw [hk]⟩

/-- row count of the distinguished file trace `(r, ty)` under prefix `p`: once `r` is registered the
    trace is started and file + cache hold the header and `h` rows; before, the cache is empty -/
def CntInv (p r ty : String) (F0 : List Row) (h : Nat) (reg : Bool) (s : MState) : Prop :=
  ∃ c st lo, dget s.traces (r, ty) = some ⟨some c, none, st⟩ ∧ s.lineOrder = some lo ∧ dhas lo r = reg ∧
    (if reg = true then st = true ∧ (fileOf s p r ty).length + c.length = 1 + h
     else c = [] ∧ h = 0 ∧ st = false ∧ fileOf s p r ty = F0)

theorem CntInv.of_untouched {p r ty : String} {F0 : List Row} {h : Nat} {reg : Bool} {s s' : MState}
    (hc : CntInv p r ty F0 h reg s) (hu : Untouched p r ty s s') (hlo : s'.lineOrder = s.lineOrder) :
    CntInv p r ty F0 h reg s' := by
  obtain ⟨c, st, lo, e1, e2, e3, e4⟩ := hc
  exact ⟨c, st, lo, hu.1.trans e1, hlo.trans e2, e3, by simpa [fileOf, hu.2] using e4⟩

theorem inv_same {p r ty : String} {F0 : List Row} {h : Nat} {reg : Bool} {s s' : MState}
    (h1 : s'.collecting = s.collecting) (h2 : s'.pfx = s.pfx) (h3 : s'.allRankMatches = s.allRankMatches)
    (h4 : s'.rankMatches = s.rankMatches) (h5 : s'.traces = s.traces) (h6 : s'.fs = s.fs)
    (h7 : s'.lineOrder = s.lineOrder) (hs : SInv p s) (hc : CntInv p r ty F0 h reg s) :
    SInv p s' ∧ CntInv p r ty F0 h reg s' :=
  ⟨⟨h1.trans hs.coll, h2.trans hs.pfx, h3.trans hs.arm, h4.trans hs.rm, by rw [h5]; exact hs.files,
    by rw [h5]; exact hs.nodup⟩, hc.of_untouched ⟨by rw [h5], by rw [h6]⟩ h7⟩

theorem known_iff {p : String} {s : MState} (hs : SInv p s) {lo : Dict Nat} (hlo : s.lineOrder = some lo)
    (rank : String) : known s rank = dhas lo rank := by
  simp [known, hlo, hs.rm, dhas]

theorem startAll_inv {p r ty rank : String} {s1 s2 : MState} (h : startAll s1 rank = some s2) (hs1 : SInv p s1) :
    SInv p s2 ∧ (rank ≠ r → Untouched p r ty s1 s2) ∧
    (rank = r → ∀ c st, dget s1.traces (r, ty) = some ⟨some c, none, st⟩ →
      ∃ hd, dget s2.traces (r, ty) = some ⟨some (c ++ [hd]), none, true⟩ ∧ dget s2.fs (p, r, ty) = some []) := by
  have hn : ((typesOf s1 rank).map (fun t => (rank, t))).Nodup := by
    rw [typesOf_keys]; exact List.Pairwise.filter _ hs1.nodup
  obtain ⟨hs2, hA, hB⟩ := foldlM_own_key (fun s t => startTrace s rank t) (fun t => (rank, t)) (r, ty) (SInv p)
    (Untouched p r ty) (Untouched.refl p r ty) Untouched.trans _ hn
    (fun s t s' _ hs h => ⟨startTrace_sinv hs h, fun hne => startTrace_other hs hne h⟩) s1 s2 hs1 h
  refine ⟨hs2, fun hne => hA ?_, ?_⟩
  · intro hm
    obtain ⟨t, _, e⟩ := List.mem_map.1 hm
    exact hne (Prod.mk.inj e).1
  · rintro rfl c st htr
    have hmem : ty ∈ typesOf s1 rank := (mem_typesOf _ _ _).2 (dhas_of_dget htr)
    obtain ⟨sa, sb, hsa, hu1, hst, hu2⟩ := hB ty hmem rfl
    obtain ⟨hd, g1, g2⟩ := startTrace_self hsa (hu1.1.trans htr) hst
    exact ⟨hd, hu2.1.trans g1, hu2.2.trans g2⟩

theorem mRegister_inv {p r ty : String} {F0 : List Row} {h : Nat} {reg : Bool} {rank : String} {s s' : MState}
    (hs : SInv p s) (hc : CntInv p r ty F0 h reg s) (hr : mRegister rank s = some s') :
    SInv p s' ∧ CntInv p r ty F0 h (reg || rank == r) s' := by
  obtain ⟨lo, it, lp, pt, _, hlo, _, _, _, hr'⟩ := mRegister_some hr
  obtain ⟨c, st, lo', e1, e2, e3, e4⟩ := hc
  cases e2.symm.trans hlo
  by_cases hd : dhas lo rank = true
  · -- registered already: nothing happens, and if `rank = r` then `reg` was true
    rw [if_pos hd] at hr'
    subst hr'
    have : (reg || rank == r) = reg := by
      by_cases hrr : rank = r
      · rw [← e3, ← hrr, hd]; rfl
      · rw [beq_eq_false_iff_ne.2 hrr, Bool.or_false]
    rw [this]
    exact ⟨hs, c, st, lo, e1, e2, e3, e4⟩
  · rw [if_neg hd] at hr'
    obtain ⟨s2, hs2, hfold⟩ := hr'
    have hcore := startAll_core hs2
    rw [show s2.allRankMatches = [] from hcore.arm.trans hs.arm] at hfold
    cases hfold
    obtain ⟨hs2inv, hO, hS⟩ := startAll_inv (p := p) (r := r) (ty := ty) hs2
      ⟨hs.coll, hs.pfx, hs.arm, hs.rm, hs.files, hs.nodup⟩
    have hlo2 : s'.lineOrder = some (dset lo rank it.length) := hcore.lo
    by_cases hrr : rank = r
    · -- the rank of the distinguished trace: its cache was empty, now it holds the header
      subst hrr
      cases e3.symm.trans (by simpa using hd)
      simp only [Bool.false_eq_true, if_false] at e4
      obtain ⟨rfl, rfl, _⟩ := e4
      obtain ⟨hd, g1, g2⟩ := hS rfl [] st e1
      refine ⟨hs2inv, [] ++ [hd], true, _, g1, hlo2, ?_, ?_⟩
      · rw [dhas_dset]; simp
      · simp [fileOf, g2]
    · have hu := hO hrr
      rw [beq_eq_false_iff_ne.2 hrr, Bool.or_false]
      refine ⟨hs2inv, c, st, _, hu.1.trans e1, hlo2, ?_, ?_⟩
      · rw [dhas_dset, e3, beq_eq_false_iff_ne.2 (Ne.symm hrr), Bool.false_or]
      · have hfs : dget s'.fs (p, r, ty) = dget s.fs (p, r, ty) := hu.2
        simpa [fileOf, hfs] using e4

theorem pushRow_some {p rank t : String} {tr : TraceSt} {data : Row} {s s' : MState} (hs : SInv p s)
    (htr : dget s.traces (rank, t) = some tr) (h : pushRow s rank t tr data = some s') :
    ∃ f, tr.file = some f ∧
      (s' = setTrace s (rank, t) ⟨some (f ++ [data]), none, tr.started⟩ ∨
       writeTrace (setTrace s (rank, t) ⟨some (f ++ [data]), none, tr.started⟩) rank t = some s') := by
  obtain ⟨f, hfile⟩ := hs.file htr
  unfold pushRow at h
  rw [hfile] at h
  simp only [withRow, (hs.entry htr).1, Option.map_none] at h
  refine ⟨f, hfile, ?_⟩
  split at h
  · exact Or.inr h
  · cases h; exact Or.inl rfl

theorem pushRow_sinv {p : String} {rank t : String} {tr : TraceSt} {data : Row} {s1 s' : MState}
    (hrec : pushRow s1 rank t tr data = some s') (hs1 : SInv p s1) (htr : dget s1.traces (rank, t) = some tr) :
    SInv p s' := by
  obtain ⟨f, _, rfl | hw⟩ := pushRow_some hs1 htr hrec
  · exact hs1.set _ rfl rfl _
  · exact writeTrace_sinv (hs1.set _ rfl rfl _) hw

theorem pushRow_inv {p r ty : String} {F0 : List Row} {h : Nat} {reg : Bool} {rank t : String} {tr : TraceSt} {data : Row}
    {s1 s' : MState} (hrec : pushRow s1 rank t tr data = some s') (hs1 : SInv p s1)
    (hc1 : CntInv p r ty F0 h reg s1) (htr : dget s1.traces (rank, t) = some tr)
    (hreg : (rank, t) = (r, ty) → reg = true) :
    SInv p s' ∧ CntInv p r ty F0 (h + (if (rank, t) = (r, ty) then 1 else 0)) reg s' := by
  refine ⟨pushRow_sinv hrec hs1 htr, ?_⟩
  obtain ⟨f, hf, hcase⟩ := pushRow_some hs1 htr hrec
  have hs2 := hs1.set (rank, t) (tr' := ⟨some (f ++ [data]), none, tr.started⟩) rfl rfl s1.fs
  by_cases hkey : (rank, t) = (r, ty)
  · -- the distinguished trace: started, one more row in cache + file
    rw [if_pos hkey]
    cases hkey
    obtain ⟨c, st, lo, e1, e2, e3, e4⟩ := hc1
    cases hreg rfl
    rw [if_pos rfl] at e4
    obtain ⟨rfl, hlen⟩ := e4
    cases e1.symm.trans htr
    cases hf
    have h2 : dget (setTrace s1 (r, ty) ⟨some (f ++ [data]), none, true⟩).traces (r, ty) =
        some ⟨some (f ++ [data]), none, true⟩ := dget_dset_self _ _ _
    rcases hcase with rfl | hw
    · refine ⟨f ++ [data], true, lo, h2, e2, e3, ?_⟩
      rw [if_pos rfl, List.length_append]
      exact ⟨rfl, by rw [← Nat.add_assoc]; exact congrArg (· + 1) hlen⟩
    · obtain ⟨g1, g2⟩ := writeTrace_self hs2 h2 hw
      refine ⟨[], true, lo, g1, (writeTrace_core hw).lo.trans e2, e3, ?_⟩
      rw [if_pos rfl, fileOf, g2]
      simp only [fileOf, fileBase, if_true, Option.getD_some, List.length_append, List.length_cons,
        List.length_nil] at hlen ⊢
      exact ⟨trivial, by omega⟩
  · rw [if_neg hkey, Nat.add_zero]
    have hu2 : Untouched p r ty s1 (setTrace s1 (rank, t) ⟨some (f ++ [data]), none, tr.started⟩) :=
      ⟨dget_dset_ne _ _ (Ne.symm hkey), rfl⟩
    refine hc1.of_untouched ?_ (pushRow_core htr hrec).lo
    rcases hcase with rfl | hw
    · exact hu2
    · exact hu2.trans (writeTrace_other hs2 hkey hw)

theorem mAddUse_inv {p r ty : String} {F0 : List Row} {h : Nat} {reg : Bool} {rank t : String} {co pos : Int}
    {itn : Option (List Int)} {s s' : MState}
    (hs : SInv p s) (hc : CntInv p r ty F0 h reg s) (hr : mAddUse rank co pos t itn s = some s') :
    SInv p s' ∧ CntInv p r ty F0 (h + (if (rank, t) = (r, ty) then 1 else 0)) reg s' := by
  obtain ⟨lo, pt, i, hcoll, hknown, hlo, hpt, hi, hrec⟩ := mAddUse_some hr
  -- the point has moved; neither invariant looks at it
  obtain ⟨hs1, hc1⟩ := inv_same (s := s) (s' := { s with point := some (newPoint lo pt rank i co) })
    rfl rfl rfl rfl rfl rfl rfl hs hc
  unfold recordUse at hrec
  split at hrec
  · -- no such trace: in particular it is not the distinguished one
    rename_i hnone
    cases hrec
    have hkey : (rank, t) ≠ (r, ty) := by
      intro hkey
      obtain ⟨c, st, lo0, e1, _⟩ := hc1
      rw [hkey, e1] at hnone; cases hnone
    rw [if_neg hkey, Nat.add_zero]
    exact ⟨hs1, hc1⟩
  · rename_i tr htr
    split at hrec
    · cases hrec
    · refine pushRow_inv hrec hs1 hc1 htr (fun e => ?_)
      -- the rank of the distinguished trace is used, so it is known, so it is registered
      obtain ⟨c, st, lo0, e1, e2, e3, e4⟩ := hc
      rw [← e3, ← known_iff hs e2, ← (Prod.mk.inj e).1]; exact hknown

theorem step_inv {p r ty : String} {F0 : List Row} {h : Nat} {reg : Bool} {op : MOp} {s s' : MState} {x : MRet}
    (hs : SInv p s) (hc : CntInv p r ty F0 h reg s) (hb : op.inBody = true) (hstep : step op s = some (x, s')) :
    SInv p s' ∧ CntInv p r ty F0 (h + nUse r ty [op]) (reg || registers r [op]) s' := by
  -- for every call but `registerRank` and `addUse` the two measures of `[op]` reduce to `0` and `false`
  have light : ∀ {s'}, SInv p s' ∧ CntInv p r ty F0 h reg s' →
      SInv p s' ∧ CntInv p r ty F0 (h + 0) (reg || false) s' := by
    intro s' h'; rw [Nat.add_zero, Bool.or_false]; exact h'
  cases op with
  | registerRank rank =>
    rw [registers_registerRank]
    exact mRegister_inv hs hc (unit_step hstep)
  | addUse rank c pos t itn =>
    rw [nUse_addUse, show registers r [MOp.addUse rank c pos t itn] = false from rfl, Bool.or_false]
    exact mAddUse_inv hs hc (unit_step hstep)
  | incIter rank =>
    obtain ⟨_, _, _, _, _, rfl⟩ := mIncIter_some (unit_step hstep)
    exact light (inv_same (s := s) rfl rfl rfl rfl rfl rfl rfl hs hc)
  | endIter rank =>
    obtain ⟨_, _, _, _, _, rfl⟩ := mEndIter_some (unit_step hstep)
    exact light (inv_same (s := s) rfl rfl rfl rfl rfl rfl rfl hs hc)
  | getLabel rank =>
    obtain ⟨_, rfl⟩ := step_getLabel hstep
    exact light (inv_same (s := s) rfl rfl rfl rfl rfl rfl rfl hs hc)
  | incCount l k n =>
    obtain ⟨_, _, _, rfl⟩ := mIncCount_some (unit_step hstep)
    exact light (inv_same (s := s) rfl rfl rfl rfl rfl rfl rfl hs hc)
  | getIndex _ | getIter | isCollecting | isTraced _ _ | dump =>
    rw [step_query hstep rfl]
    exact light ⟨hs, hc⟩
  | _ => cases hb

theorem body_inv {p r ty : String} {F0 : List Row} {body : List MOp} :
    ∀ {h : Nat} {reg : Bool} {s s' : MState} {rs : List MRet}, SInv p s → CntInv p r ty F0 h reg s →
      (∀ op ∈ body, op.inBody = true) → runOps body s = some (rs, s') →
      SInv p s' ∧ CntInv p r ty F0 (h + nUse r ty body) (reg || registers r body) s' := by
  induction body with
  | nil =>
    intro h reg s s' rs hs hc _ hrun
    cases hrun
    rw [show nUse r ty [] = 0 from rfl, show registers r [] = false from rfl, Nat.add_zero, Bool.or_false]
    exact ⟨hs, hc⟩
  | cons op body ih =>
    intro h reg s s' rs hs hc hb hrun
    obtain ⟨x, s1, rs', h1, h2, _⟩ := runOps_cons.1 hrun
    obtain ⟨hs1, hc1⟩ := step_inv hs hc (hb op List.mem_cons_self) h1
    have := ih hs1 hc1 (fun o ho => hb o (List.mem_cons_of_mem _ ho)) h2
    rw [← List.singleton_append, nUse_append, registers_append, ← Nat.add_assoc, ← Bool.or_assoc]
    exact this

theorem endOne_eq {s : MState} {e : TKey × TraceSt} (he : e.2.mem = none ∧ e.2.file.isSome = true) :
    endOne s e = writeTrace s e.1.1 e.1.2 := by
  unfold endOne
  rw [if_pos he.2, he.1]
  cases writeTrace s e.1.1 e.1.2 <;> rfl

theorem mEnd_fs {p r ty : String} {s s' : MState} {c : List Row} {st : Bool} (hs : SInv p s)
    (htr : dget s.traces (r, ty) = some ⟨some c, none, st⟩) (hend : mEnd s = some s') :
    dget s'.fs (p, r, ty) = some (fileBase s (p, r, ty) st ++ c) := by
  obtain ⟨s1, hfold, _, rfl⟩ := mEnd_some hend
  obtain ⟨_, _, hB⟩ := foldlM_own_key endOne (·.1) (r, ty) (SInv p) (Untouched p r ty) (Untouched.refl p r ty)
    Untouched.trans s.traces hs.nodup
    (fun a e b he ha h => by
      rw [endOne_eq (hs.files e he)] at h
      exact ⟨writeTrace_sinv ha h, fun hne => writeTrace_other ha hne h⟩) s s1 hs hfold
  obtain ⟨sa, sb, hsa, hu1, hw, hu2⟩ := hB _ (dget_mem _ _ _ htr) rfl
  rw [endOne_eq (hs.entry htr)] at hw
  have := (writeTrace_self hsa (hu1.1.trans htr) hw).2
  show dget s1.fs (p, r, ty) = _
  rw [hu2.2, this]
  simp only [fileBase, hu1.2]

/-- after `endCollect` the file of the distinguished trace holds, besides the header, the rows counted so far;
    if its rank was never registered it is a new, empty file -/
theorem mEnd_file {p r ty : String} {F0 : List Row} {h : Nat} {reg : Bool} {s s' : MState} (hs : SInv p s)
    (hc : CntInv p r ty F0 h reg s) (hend : mEnd s = some s') :
    numIters (fileOf s' p r ty) = h ∧ (reg = false → fileOf s' p r ty = []) := by
  obtain ⟨c, st, lo, e1, e2, e3, e4⟩ := hc
  rw [fileOf, mEnd_fs hs e1 hend, Option.getD_some, numIters]
  cases reg with
  | false =>
    simp only [Bool.false_eq_true, if_false] at e4
    obtain ⟨rfl, rfl, rfl, _⟩ := e4
    exact ⟨rfl, fun _ => rfl⟩
  | true =>
    simp only [if_true] at e4
    obtain ⟨rfl, hlen⟩ := e4
    refine ⟨?_, nofun⟩
    simp only [fileBase, if_true, fileOf, List.length_append] at hlen ⊢
    omega

def freshTrace : TraceSt := { file := some [], mem := none, started := false }

structure DeclInv (p : String) (fs0 : FS) (s : MState) : Prop where
  sinv : SInv p s
  lo : s.lineOrder = some []
  it : s.iteration = some []
  lp : s.loopOrder = some []
  pt : s.point = some []
  fresh : ∀ e ∈ s.traces, e.2 = freshTrace
  fs : s.fs = fs0
  met : s.metrics = some []

theorem mBegin_decl (p : String) (s0 : MState) : DeclInv p s0.fs (mBegin (some p) s0) :=
  ⟨⟨rfl, rfl, rfl, rfl, (fun e he => by cases he), (by simp [mBegin])⟩, rfl, rfl, rfl, rfl,
    (fun e he => by cases he), rfl, rfl⟩

theorem mTrace_decl {p : String} {fs0 : FS} {s : MState} (k : TKey) (hd : DeclInv p fs0 s) :
    ∃ s', mTrace k.1 k.2 false s = some s' ∧ DeclInv p fs0 s' ∧ dhas s'.traces k = true ∧
      (∀ k', dhas s.traces k' = true → dhas s'.traces k' = true) := by
  -- the entry written is fresh whether or not the trace was declared before
  have hval : ({ (dget s.traces (k.1, k.2)).getD { file := none, mem := none, started := false } with
      file := some [] } : TraceSt) = freshTrace := by
    cases hg : dget s.traces (k.1, k.2) with
    | none => rfl
    | some tr => rw [show tr = freshTrace from hd.fresh ((k.1, k.2), tr) (dget_mem _ _ _ hg)]; rfl
  refine ⟨{ s with traces := dset s.traces (k.1, k.2) freshTrace },
    by simp [mTrace, hd.sinv.pfx, hd.sinv.coll, hval],
    ⟨hd.sinv.set _ rfl rfl _, hd.lo, hd.it, hd.lp, hd.pt, ?_, hd.fs, hd.met⟩, ?_, ?_⟩
  · intro e he
    rcases mem_dset _ _ _ _ he with he | rfl
    · exact hd.fresh e he
    · rfl
  · show dhas (dset s.traces (k.1, k.2) freshTrace) k = true
    rw [dhas_dset]; simp
  · intro k' hk'
    show dhas (dset s.traces (k.1, k.2) freshTrace) k' = true
    rw [dhas_dset, hk']; simp

theorem open_ok (p : String) (keys : List TKey) (s0 : MState) :
    ∃ rs s, runOps (openOps p keys) s0 = some (rs, s) ∧ DeclInv p s0.fs s ∧
      ∀ k ∈ keys, dget s.traces k = some freshTrace := by
  have decls : ∀ (keys : List TKey) (s : MState), DeclInv p s0.fs s →
      ∃ rs s', runOps (keys.map (fun k => MOp.trace k.1 k.2 false)) s = some (rs, s') ∧ DeclInv p s0.fs s' ∧
        (∀ k ∈ keys, dhas s'.traces k = true) ∧ (∀ k', dhas s.traces k' = true → dhas s'.traces k' = true) := by
    intro keys
    induction keys with
    | nil => intro s hd; exact ⟨[], s, rfl, hd, fun _ hk => absurd hk List.not_mem_nil, fun _ h => h⟩
    | cons k keys ih =>
      intro s hd
      obtain ⟨s1, h1, hd1, hk1, hmono1⟩ := mTrace_decl k hd
      obtain ⟨rs, s', h', hd', hall, hmono⟩ := ih s1 hd1
      refine ⟨.unit :: rs, s', runOps_cons.2 ⟨_, _, _, congrArg (Option.map fun s' => (MRet.unit, s')) h1, h', rfl⟩,
        hd', fun k' hk' => ?_, fun k' hk' => hmono k' (hmono1 k' hk')⟩
      rcases List.mem_cons.1 hk' with rfl | hk'
      · exact hmono _ hk1
      · exact hall k' hk'
  obtain ⟨rs, s, h, hd, hall, _⟩ := decls keys _ (mBegin_decl p s0)
  refine ⟨.unit :: rs, s, runOps_cons.2 ⟨_, _, _, rfl, h, rfl⟩, hd, fun k hk => ?_⟩
  obtain ⟨tr, hg⟩ := dget_of_dhas (hall k hk)
  rw [hg, show tr = freshTrace from hd.fresh (k, tr) (dget_mem _ _ _ hg)]

theorem session_inv {p : String} {keys : List TKey} {body : List MOp} {s0 s' : MState} {rs : List MRet}
    (hbody : ∀ op ∈ body, op.inBody = true)
    (hrun : runOps (openOps p keys ++ body ++ [.endCollect]) s0 = some (rs, s'))
    {r ty : String} (hk : (r, ty) ∈ keys) :
    ∃ s2, SInv p s2 ∧ CntInv p r ty (fileOf s0 p r ty) (nUse r ty body) (registers r body) s2 ∧ mEnd s2 = some s' := by
  obtain ⟨s2, ra, rb, hA, hB, _⟩ := runOps_append.1 hrun
  obtain ⟨s1, ra1, ra2, hA1, hA2, _⟩ := runOps_append.1 hA
  obtain ⟨_, _, h1, hd, hall⟩ := open_ok p keys s0
  cases hA1.symm.trans h1
  have hc0 : CntInv p r ty (fileOf s0 p r ty) 0 false s1 :=
    ⟨[], false, [], hall _ hk, hd.lo, rfl, by simp [fileOf, hd.fs]⟩
  obtain ⟨hs2, hc2⟩ := body_inv hd.sinv hc0 hbody hA2
  simp only [Nat.zero_add, Bool.false_or] at hc2
  obtain ⟨x, s3, rs', h1, h2, _⟩ := runOps_cons.1 hB
  simp only [runOps, Option.some.injEq, Prod.mk.injEq] at h2
  simp only [step, Option.map_eq_some_iff] at h1
  obtain ⟨s3', h1', h1''⟩ := h1
  cases h1''
  exact ⟨s2, hs2, hc2, by rw [h1', h2.2]⟩

end Ft.C15
