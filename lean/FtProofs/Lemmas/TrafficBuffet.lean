/-
  Helper lemmas for C17: the buffet state (resident lines in fill order, drain queue), the
  invariant that ties the simulation to the (line, eviction-window) groups of the trace, the two
  trace-level hypotheses (adjacent windows; true of stamp-sorted traces) and bounds on the group counts.
-/
import FtProofs.Lemmas.TrafficBasic
namespace Ft
namespace Traffic

abbrev Pt := List Nat
abbrev Objs := List (Pt × BEntry)

/-- resident lines in fill order carry consecutive queue indices starting at `d` -/
def QOK (objs : Objs) : Nat → List Pt → Prop
  | _, [] => True
  | d, p :: t => (∃ dirty, alookup objs p = some ⟨dirty, d⟩) ∧ QOK objs (d + 1) t

def isDirty (objs : Objs) (p : Pt) : Bool :=
  match alookup objs p with | some en => en.dirty | none => false

def dirtyCount (objs : Objs) (q : List Pt) : Nat := (q.filter (isDirty objs)).length

/-- the line has been handed to the drain queue (`ready_to_drain[idx] = obj`) -/
def IsReady (s : B1) (p : Pt) : Prop :=
  ∃ en, alookup s.objs p = some en ∧ alookup s.ready en.idx = some p

theorem qok_idx {objs : Objs} : ∀ {d : Nat} {q : List Pt}, QOK objs d q → ∀ {p : Pt}, p ∈ q →
    ∀ {en : BEntry}, alookup objs p = some en → ∃ i, q[i]? = some p ∧ en.idx = d + i
  | d, h :: t, hq, p, hp, en, hen => by
    rcases List.mem_cons.1 hp with rfl | hp
    · obtain ⟨dirty, hl⟩ := hq.1
      rw [hl] at hen; cases hen; exact ⟨0, rfl, rfl⟩
    · obtain ⟨i, hi, he⟩ := qok_idx hq.2 hp hen
      exact ⟨i + 1, hi, by omega⟩

theorem qok_lt {objs : Objs} : ∀ {d : Nat} {q : List Pt}, QOK objs d q → ∀ {p : Pt}, p ∈ q →
    ∀ {en : BEntry}, alookup objs p = some en → en.idx < d + q.length := by
  intro d q hq p hp en hen
  obtain ⟨i, hi, he⟩ := qok_idx hq hp hen
  have := (List.getElem?_eq_some_iff.1 hi).1
  omega

theorem qok_head_unique {objs : Objs} {d : Nat} {h : Pt} {t : List Pt} (hq : QOK objs d (h :: t))
    {p : Pt} (hp : p ∈ h :: t) {en : BEntry} (hen : alookup objs p = some en) (hd : en.idx = d) :
    p = h := by
  obtain ⟨i, hi, he⟩ := qok_idx hq hp hen
  have : i = 0 := by omega
  subst this
  exact (Option.some.inj hi).symm

theorem qok_inj {objs : Objs} {d : Nat} {q : List Pt} (hq : QOK objs d q) {p p' : Pt} (hp : p ∈ q)
    (hp' : p' ∈ q) {en en' : BEntry} (hen : alookup objs p = some en) (hen' : alookup objs p' = some en')
    (h : en.idx = en'.idx) : p = p' := by
  obtain ⟨i, hi, he⟩ := qok_idx hq hp hen
  obtain ⟨j, hj, he'⟩ := qok_idx hq hp' hen'
  have : i = j := by omega
  subst this
  rw [hi] at hj; exact Option.some.inj hj

theorem qok_congr {objs objs' : Objs} : ∀ {d : Nat} {q : List Pt}, QOK objs d q →
    (∀ p ∈ q, ∀ en, alookup objs p = some en → ∃ b, alookup objs' p = some ⟨b, en.idx⟩) → QOK objs' d q
  | _, [], _, _ => trivial
  | d, h :: t, hq, hc => by
    refine ⟨?_, qok_congr hq.2 (fun p hp => hc p (List.mem_cons_of_mem _ hp))⟩
    obtain ⟨dirty, hl⟩ := hq.1
    obtain ⟨b, hb⟩ := hc h List.mem_cons_self _ hl
    exact ⟨b, hb⟩

theorem qok_append {objs : Objs} : ∀ {d : Nat} {q : List Pt}, QOK objs d q → ∀ {p : Pt}, p ∉ q →
    ∀ (b : Bool), QOK (ainsert objs p ⟨b, d + q.length⟩) d (q ++ [p])
  | d, [], _, p, _, b => by
    simp only [List.nil_append, QOK, List.length_nil, Nat.add_zero, and_true]
    exact ⟨b, alookup_ainsert_self _ _ _⟩
  | d, h :: t, hq, p, hp, b => by
    have hne : p ≠ h := fun e => hp (e ▸ List.mem_cons_self)
    have hpt : p ∉ t := fun e => hp (List.mem_cons_of_mem _ e)
    refine ⟨?_, ?_⟩
    · obtain ⟨dirty, hl⟩ := hq.1
      exact ⟨dirty, by rw [alookup_ainsert_ne _ _ hne]; exact hl⟩
    · have := qok_append hq.2 hpt b
      simp only [List.length_cons]
      have e : d + (t.length + 1) = d + 1 + t.length := by omega
      rw [e]; exact this

theorem dirtyCount_congr {objs objs' : Objs} {q : List Pt}
    (h : ∀ p ∈ q, isDirty objs' p = isDirty objs p) : dirtyCount objs' q = dirtyCount objs q := by
  unfold dirtyCount
  congr 1
  apply List.filter_congr
  intro x hx; exact h x hx

/-! the four cases of one row (`bstep`) -/

theorem bstep_fill {e ls : Nat} {s : B1} {a : Acc} (hl : alookup s.objs a.point = none)
    (hb : bToBuf e a = true) :
    bstep e ls s a = { s with reads := (if a.isWrite then s.reads else s.reads + ls),
                              objs := ainsert s.objs a.point ⟨a.wb, s.fill⟩,
                              fill := s.fill + 1, occ := s.occ + ls } := by
  cases hw : a.isWrite <;> simp [bstep, hl, hb, hw]

theorem bstep_bypass {e ls : Nat} {s : B1} {a : Acc} (hl : alookup s.objs a.point = none)
    (hb : bToBuf e a = false) :
    bstep e ls s a = { s with reads := (if a.isWrite then s.reads else s.reads + ls),
                              writes := (if a.wb then s.writes + ls else s.writes) } := by
  cases hw : a.isWrite <;> cases hwb : a.wb <;> simp [bstep, hl, hb, hw, hwb]

theorem bstep_hit_again {e ls : Nat} {s : B1} {a : Acc} {en : BEntry}
    (hl : alookup s.objs a.point = some en) (hb : bToBuf e a = true) :
    bstep e ls s a = { s with objs := ainsert s.objs a.point ⟨en.dirty || a.wb, en.idx⟩ } := by
  simp [bstep, hl, hb, setDirty]

theorem bstep_hit_last {e ls : Nat} {s : B1} {a : Acc} {en : BEntry}
    (hl : alookup s.objs a.point = some en) (hb : bToBuf e a = false) :
    bstep e ls s a = drainLoop ls (ainsert s.ready en.idx a.point).length
      { s with objs := ainsert s.objs a.point ⟨en.dirty || a.wb, en.idx⟩,
               ready := ainsert s.ready en.idx a.point } := by
  simp [bstep, hl, hb, setDirty, alookup_ainsert_self]

/-- The queue structure of one binding's buffet state.  `q` lists the resident lines in the order
    they were filled: exactly the keys of `objs`, carrying the consecutive queue indices
    `drain, drain + 1, …, fill - 1`; a slot of the drain queue (`ready`) holds the line with that index. -/
structure SInv (s : B1) (q : List Pt) : Prop where
  nodup : q.Nodup
  mem   : ∀ p, (alookup s.objs p).isSome = true ↔ p ∈ q
  qok   : QOK s.objs s.drain q
  fill  : s.fill = s.drain + q.length
  rdy   : ∀ j p, alookup s.ready j = some p → ∃ d, alookup s.objs p = some ⟨d, j⟩

theorem SInv.mem_of_lookup {s : B1} {q : List Pt} (h : SInv s q) {p : Pt} {en : BEntry}
    (hl : alookup s.objs p = some en) : p ∈ q := (h.mem p).1 (by simp [hl])

/-- one iteration of the drain loop, seen from the state `s1` it produces: the front of the queue has
    left, the lines behind it keep their entries and their readiness, and the write-backs charged or
    still owed are the same -/
theorem drain_one {ls : Nat} {s s1 : B1} {h : Pt} {t : List Pt} (hs : SInv s (h :: t)) {d : Bool}
    (hobj : alookup s.objs h = some ⟨d, s.drain⟩)
    (hobjs : s1.objs = aerase s.objs h) (hready : s1.ready = aerase s.ready s.drain)
    (hdrain : s1.drain = s.drain + 1) (hfill : s1.fill = s.fill)
    (hw : s1.writes = if d then s.writes + ls else s.writes) :
    SInv s1 t ∧ (∀ p ∈ t, alookup s1.objs p = alookup s.objs p) ∧
      (∀ p ∈ t, (IsReady s1 p ↔ IsReady s p)) ∧
      s1.writes + ls * dirtyCount s1.objs t = s.writes + ls * dirtyCount s.objs (h :: t) := by
  have hnd := List.nodup_cons.1 hs.nodup
  have hne : ∀ p ∈ t, h ≠ p := fun p hp e => hnd.1 (e ▸ hp)
  have hsame : ∀ p ∈ t, alookup s1.objs p = alookup s.objs p := fun p hp => by
    rw [hobjs]; exact alookup_aerase_ne _ (hne p hp)
  refine ⟨⟨hnd.2, ?_, ?_, ?_, ?_⟩, hsame, ?_, ?_⟩
  · intro p
    rw [hobjs]
    by_cases hp : h = p
    · subst hp; simp [alookup_aerase, hnd.1]
    · rw [alookup_aerase_ne _ hp, hs.mem p]
      simp [List.mem_cons, Ne.symm hp]
  · rw [hdrain]
    exact qok_congr hs.qok.2 (fun p hp en hen => ⟨en.dirty, by rw [hsame p hp, hen]⟩)
  · rw [hfill, hdrain, hs.fill, List.length_cons, Nat.add_comm t.length 1, Nat.add_assoc]
  · intro j p hj
    rw [hready, alookup_aerase] at hj
    by_cases hjd : s.drain = j
    · simp [hjd] at hj
    · simp only [hjd, if_false] at hj
      obtain ⟨d', hd'⟩ := hs.rdy _ _ hj
      have : h ≠ p := by
        intro e; subst e; rw [hobj] at hd'; cases hd'; exact hjd rfl
      exact ⟨d', by rw [hobjs, alookup_aerase_ne _ this, hd']⟩
  · -- the lines behind the front have later slots, so their readiness is not touched
    intro p hp
    have hslot : ∀ en, alookup s.objs p = some en →
        alookup s1.ready en.idx = alookup s.ready en.idx := by
      intro en hen
      obtain ⟨i, _, he⟩ := qok_idx hs.qok.2 hp hen
      rw [hready]
      exact alookup_aerase_ne _ (by
        rw [he]; exact Nat.ne_of_lt (Nat.lt_of_lt_of_le (Nat.lt_succ_self _) (Nat.le_add_right _ i)))
    constructor
    · rintro ⟨en, h1, h2⟩
      rw [hsame p hp] at h1
      exact ⟨en, h1, by rw [← hslot en h1]; exact h2⟩
    · rintro ⟨en, h1, h2⟩
      exact ⟨en, by rw [hsame p hp]; exact h1, by rw [hslot en h1]; exact h2⟩
  · have hc : dirtyCount s1.objs t = dirtyCount s.objs t :=
      dirtyCount_congr (fun p hp => by simp only [isDirty, hsame p hp])
    have hd : isDirty s.objs h = d := by simp [isDirty, hobj]
    rw [hw, hc]
    simp only [dirtyCount, List.filter_cons, hd]
    cases d
    · simp
    · simp only [if_true, List.length_cons]
      rw [Nat.mul_add]; omega

/-- the drain loop removes a prefix of ready lines, charges the dirty ones, and stops in front of
    a line that is not ready -/
theorem drainLoop_spec (ls : Nat) : ∀ (fuel : Nat) (s : B1) (q : List Pt), SInv s q →
    s.ready.length ≤ fuel →
    ∃ pre q', q = pre ++ q' ∧ SInv (drainLoop ls fuel s) q' ∧
      (∀ p ∈ pre, IsReady s p) ∧
      (drainLoop ls fuel s).reads = s.reads ∧
      (drainLoop ls fuel s).writes + ls * dirtyCount (drainLoop ls fuel s).objs q'
        = s.writes + ls * dirtyCount s.objs q ∧
      (∀ p ∈ q', alookup (drainLoop ls fuel s).objs p = alookup s.objs p) ∧
      (∀ p ∈ q', (IsReady (drainLoop ls fuel s) p ↔ IsReady s p)) ∧
      alookup (drainLoop ls fuel s).ready (drainLoop ls fuel s).drain = none
  | 0, s, q, hs, hf => by
    have : s.ready = [] := List.eq_nil_of_length_eq_zero (Nat.le_zero.1 hf)
    refine ⟨[], q, rfl, by simpa [drainLoop] using hs, by simp, rfl, rfl, fun _ _ => rfl,
      fun _ _ => Iff.rfl, ?_⟩
    simp [drainLoop, this, alookup]
  | fuel + 1, s, q, hs, hf => by
    cases hr : alookup s.ready s.drain with
    | none =>
      have e : drainLoop ls (fuel + 1) s = s := by simp [drainLoop, hr]
      rw [e]
      exact ⟨[], q, rfl, hs, by simp, rfl, rfl, fun _ _ => rfl, fun _ _ => Iff.rfl, hr⟩
    | some obj =>
      -- `obj` is resident with index `drain`, hence it is the front of the queue
      obtain ⟨d, hobj⟩ := hs.rdy _ _ hr
      have hmem : obj ∈ q := hs.mem_of_lookup hobj
      cases q with
      | nil => cases hmem
      | cons h t =>
        have hobjh : obj = h := qok_head_unique hs.qok hmem hobj rfl
        subst hobjh
        let s1 : B1 := { s with writes := (if d then s.writes + ls else s.writes),
                                 objs := aerase s.objs obj,
                                 ready := aerase s.ready s.drain,
                                 drain := s.drain + 1,
                                 occ := s.occ - ls }
        have e : drainLoop ls (fuel + 1) s = drainLoop ls fuel s1 := by
          simp [drainLoop, hr, hobj, s1]
        obtain ⟨hs1, hsame, hiff, hpot⟩ := drain_one (ls := ls) (s1 := s1) hs hobj (hobjs := rfl) (hready := rfl) (hdrain := rfl)
          (hfill := rfl) (hw := rfl)
        have hf1 : s1.ready.length ≤ fuel :=
          Nat.le_of_lt_succ (Nat.lt_of_lt_of_le (aerase_length_lt s.ready s.drain hr) hf)
        obtain ⟨pre, q', hq, hs', hpre, hreads, hwrites, hobjs, hrdy, hhead⟩ :=
          drainLoop_spec ls fuel s1 t hs1 hf1
        have hsub : ∀ p, p ∈ pre ∨ p ∈ q' → p ∈ t := fun p h => by rw [hq]; exact List.mem_append.2 h
        rw [e]
        refine ⟨obj :: pre, q', by simp [hq], hs', ?_, hreads, hwrites.trans hpot, ?_, ?_, hhead⟩
        · intro p hp
          rcases List.mem_cons.1 hp with rfl | hp
          · exact ⟨_, hobj, hr⟩
          · exact (hiff p (hsub p (Or.inl hp))).1 (hpre p hp)
        · exact fun p hp => (hobjs p hp).trans (hsame p (hsub p (Or.inr hp)))
        · exact fun p hp => (hrdy p hp).trans (hiff p (hsub p (Or.inr hp)))

/-- eviction window of an access: the stamp down to the evict-on rank -/
def win (e : Nat) (a : Acc) : List Nat := a.stamp.take e

theorem gkey_eq (e : Nat) (a : Acc) : a.gkey e = (a.point, win e a) := rfl

/-- the rows of one window are adjacent -/
def WinContig (e : Nat) : List Acc → Prop
  | [] => True
  | a :: rest =>
    (∀ pre x post, rest = pre ++ x :: post → win e x = win e a → ∀ y ∈ pre, win e y = win e a)
      ∧ WinContig e rest

theorem bToBuf_iff (e : Nat) (a : Acc) (rest : List Acc)
    (h : a.next = (rest.find? (fun x => decide (x.point = a.point))).map (·.stamp)) :
    bToBuf e a = true ↔
      ∃ x, rest.find? (fun x => decide (x.point = a.point)) = some x ∧ win e x = win e a := by
  unfold bToBuf
  rw [h]
  cases hf : rest.find? (fun x => decide (x.point = a.point)) with
  | none => simp
  | some x =>
    simp only [Option.map_some, decide_eq_true_eq, Option.some.injEq, exists_eq_left', win]
    exact eq_comm

theorem find_split {α : Type} {l : List α} {P : α → Bool} {x : α} (h : l.find? P = some x) :
    P x = true ∧ ∃ pre post, l = pre ++ x :: post ∧ ∀ y ∈ pre, P y = false := by
  have := List.find?_eq_some_iff_append.1 h
  refine ⟨this.1, ?_⟩
  obtain ⟨as, bs, hl, hn⟩ := this.2
  exact ⟨as, bs, hl, fun y hy => by simpa using hn y hy⟩

/-- The invariant of the buffet run, between two rows.  `rem` is the part of the trace still to be
    read, `q` the resident lines in fill order, `w` the eviction window of the last row read.
    `seen` holds the (line, window) groups met so far (the argument of `fillsFrom`), `sd` those of
    them that contain a written-back row (the argument of `wbFrom`).
    A resident line is *open* (not handed to the drain queue): then its group is the one of window `w`
    and has a later row (`cur`, `opn`); or it is ready: then its group has no later row (`cls`).  The
    front of the queue is open (`head`).  A group seen whose line is not resident has no later row
    (`gone`); the dirty flags record `sd` (`dirty`).  Windows do not come back: a window seen other than
    `w` has no later row (`past`), rows of window `w` still to come are adjacent at the front of `rem`
    (`cur_adj`), and `rem` itself has adjacent windows (`contig`). -/
structure Inv (e : Nat) (s : B1) (q : List Pt) (seen sd : List GKey) (w : List Nat)
    (rem : List Acc) : Prop where
  sinv  : SInv s q
  head  : alookup s.ready s.drain = none
  cur   : ∀ p ∈ q, (p, w) ∈ seen
  opn   : ∀ p ∈ q, ¬ IsReady s p →
            ∃ x, rem.find? (fun x => decide (x.point = p)) = some x ∧ win e x = w
  cls   : ∀ p ∈ q, IsReady s p → ∀ x ∈ rem, x.point = p → win e x ≠ w
  gone  : ∀ k ∈ seen, k.1 ∉ q → ∀ x ∈ rem, x.gkey e ≠ k
  sdsub : ∀ k ∈ sd, k ∈ seen
  dirty : ∀ p ∈ q, (isDirty s.objs p = true ↔ (p, w) ∈ sd)
  past  : ∀ k ∈ seen, k.2 ≠ w → ∀ x ∈ rem, win e x ≠ k.2
  cur_adj : seen ≠ [] → ∀ pre x post, rem = pre ++ x :: post → win e x = w → ∀ y ∈ pre, win e y = w
  contig : WinContig e rem

theorem head_not_ready {s : B1} {h : Pt} {t : List Pt} (hs : SInv s (h :: t))
    (hd : alookup s.ready s.drain = none) : ¬ IsReady s h := by
  rintro ⟨en, hen, hr⟩
  obtain ⟨d, hl⟩ := hs.qok.1
  rw [hl] at hen; cases hen
  rw [hd] at hr; cases hr

theorem q_nil_of_all_ready {s : B1} {q : List Pt} (hs : SInv s q)
    (hd : alookup s.ready s.drain = none) (h : ∀ p ∈ q, IsReady s p) : q = [] := by
  cases q with
  | nil => rfl
  | cons a t => exact absurd (h a List.mem_cons_self) (head_not_ready hs hd)

section
variable {e ls : Nat} {s : B1} {q : List Pt} {seen sd : List GKey} {w : List Nat}
  {a : Acc} {rest : List Acc}

/-- an open line has a later row in the current window, and rows of a window are adjacent: the row
    read now belongs to that window -/
theorem Inv.win_of_open (hI : Inv e s q seen sd w (a :: rest)) {p : Pt} (hp : p ∈ q)
    (hnr : ¬ IsReady s p) : win e a = w := by
  obtain ⟨x, hx, hxw⟩ := hI.opn p hp hnr
  obtain ⟨_, pre, post, hl, _⟩ := find_split hx
  have hseen : seen ≠ [] := fun e => by have := hI.cur p hp; rw [e] at this; cases this
  cases pre with
  | nil =>
    rw [List.nil_append, List.cons.injEq] at hl
    rw [hl.1]; exact hxw
  | cons y pre' =>
    rw [List.cons_append, List.cons.injEq] at hl
    exact hI.cur_adj hseen (a :: pre') x post (by rw [hl.2, List.cons_append]) hxw a List.mem_cons_self

theorem Inv.win_or_empty (hI : Inv e s q seen sd w (a :: rest)) : win e a = w ∨ q = [] := by
  by_cases hw : win e a = w
  · exact Or.inl hw
  · exact Or.inr (q_nil_of_all_ready hI.sinv hI.head fun p hp =>
      Classical.byContradiction fun hnr => hw (hI.win_of_open hp hnr))

theorem Inv.win_of_mem (hI : Inv e s q seen sd w (a :: rest)) {p : Pt} (hp : p ∈ q) :
    win e a = w := by
  rcases hI.win_or_empty with h | h
  · exact h
  · rw [h] at hp; cases hp

/-- a resident line that is accessed is open (the front of the queue is, so the row is in the current
    window, where a ready line has no row left), and the access continues the current window -/
theorem Inv.hit_open (hI : Inv e s q seen sd w (a :: rest)) (hp : a.point ∈ q) :
    ¬ IsReady s a.point ∧ win e a = w := by
  by_cases hr : IsReady s a.point
  · cases q with
    | nil => cases hp
    | cons h t =>
      have hwa := hI.win_of_open List.mem_cons_self (head_not_ready hI.sinv hI.head)
      exact absurd hwa (hI.cls _ hp hr a List.mem_cons_self rfl)
  · exact ⟨hr, hI.win_of_open hp hr⟩

theorem Inv.miss_new (hI : Inv e s q seen sd w (a :: rest)) (hp : a.point ∉ q) :
    a.gkey e ∉ seen := by
  intro hk
  exact hI.gone _ hk hp a List.mem_cons_self rfl

/-- after a row that ends its group, the group never reappears -/
theorem no_later_same_group {e : Nat} {a : Acc} {rest : List Acc} (hc : WinContig e (a :: rest))
    (hn : a.next = (rest.find? (fun x => decide (x.point = a.point))).map (·.stamp))
    (hb : bToBuf e a = false) : ∀ x ∈ rest, x.point = a.point → win e x ≠ win e a := by
  intro x hx hxp hxw
  have hnb : ¬ (∃ x, rest.find? (fun x => decide (x.point = a.point)) = some x ∧ win e x = win e a) := by
    rw [← bToBuf_iff e a rest hn, hb]; simp
  cases hf : rest.find? (fun x => decide (x.point = a.point)) with
  | none =>
    have := List.find?_eq_none.1 hf x hx
    simp [hxp] at this
  | some y =>
    obtain ⟨_, pre, post, hl, hpre⟩ := find_split hf
    -- x is y or comes after y; all rows before x have a's window, so y has it as well
    have hy : win e y = win e a := by
      rw [hl] at hx
      rcases List.mem_append.1 hx with hx1 | hx2
      · have := hpre x hx1; simp [hxp] at this
      · rcases List.mem_cons.1 hx2 with rfl | hx3
        · exact hxw
        · obtain ⟨p1, p2, hp⟩ := List.append_of_mem hx3
          exact hc.1 (pre ++ y :: p1) x p2 (by rw [hl, hp]; simp) hxw y (by simp)
    exact hnb ⟨y, hf, hy⟩

theorem isDirty_ainsert_self (objs : Objs) (p : Pt) (en : BEntry) :
    isDirty (ainsert objs p en) p = en.dirty := by simp [isDirty, alookup_ainsert_self]

theorem isDirty_ainsert_ne (objs : Objs) {p p' : Pt} (en : BEntry) (h : p ≠ p') :
    isDirty (ainsert objs p en) p' = isDirty objs p' := by simp [isDirty, alookup_ainsert_ne _ _ h]

theorem dirtyCount_append (objs : Objs) (q : List Pt) (p : Pt) :
    dirtyCount objs (q ++ [p]) = dirtyCount objs q + (if isDirty objs p then 1 else 0) := by
  unfold dirtyCount
  rw [List.filter_append, List.length_append]
  cases h : isDirty objs p <;> simp [h]

theorem dirtyCount_set (objs : Objs) (p : Pt) (d wb : Bool) (i : Nat) (hd : isDirty objs p = d)
    (q : List Pt) (hnd : q.Nodup) (hp : p ∈ q) :
    dirtyCount (ainsert objs p ⟨d || wb, i⟩) q = dirtyCount objs q + (if wb && !d then 1 else 0) := by
  -- bring `p` to the front; the other lines keep their flags
  have hperm := List.perm_cons_erase hp
  have hrest : ∀ en, dirtyCount (ainsert objs p en) (q.erase p) = dirtyCount objs (q.erase p) := fun en =>
    dirtyCount_congr (fun x hx => isDirty_ainsert_ne _ _ (fun e => (hnd.mem_erase_iff.1 hx).1 e.symm))
  unfold dirtyCount at *
  rw [(hperm.filter _).length_eq, (hperm.filter _).length_eq, List.filter_cons, List.filter_cons,
    isDirty_ainsert_self, hd]
  cases d <;> cases wb <;> simp [hrest]

theorem SInv.lookup_none {s : B1} {q : List Pt} (h : SInv s q) {p : Pt} (hp : p ∉ q) :
    alookup s.objs p = none := by
  cases hl : alookup s.objs p with
  | none => rfl
  | some en => exact absurd (h.mem_of_lookup hl) hp

theorem IsReady.congr {s s' : B1} {p : Pt} (ho : alookup s'.objs p = alookup s.objs p)
    (hr : s'.ready = s.ready) : IsReady s' p ↔ IsReady s p := by
  unfold IsReady; rw [ho, hr]

/-- windows seen before do not come back: a window other than the new current one was left before,
    or it is the old current one, which the row read now shows to be over -/
theorem Inv.windows_next (hI : Inv e s q seen sd w (a :: rest)) :
    ∀ k' ∈ a.gkey e :: seen, k'.2 ≠ win e a → ∀ x ∈ rest, win e x ≠ k'.2 := by
  intro k' hk' hne x hx
  rcases List.mem_cons.1 hk' with rfl | hk'
  · exact absurd rfl hne
  · by_cases hkw : k'.2 = w
    · intro hxw
      obtain ⟨p1, p2, hp⟩ := List.append_of_mem hx
      have hseen : seen ≠ [] := by intro e; rw [e] at hk'; cases hk'
      have := hI.cur_adj hseen (a :: p1) x p2 (by rw [hp]; simp) (by rw [hxw, hkw]) a List.mem_cons_self
      exact hne (by rw [hkw, this])
    · exact hI.past k' hk' hkw x (List.mem_cons_of_mem _ hx)

theorem mem_sd_next {a : Acc} {e : Nat} {sd : List GKey} (k : GKey) :
    k ∈ (if a.wb then a.gkey e :: sd else sd) ↔ (a.wb = true ∧ k = a.gkey e) ∨ k ∈ sd := by
  cases a.wb <;> simp

/-- a group seen so far whose line is not resident after the row has no later row: its line was not
    resident before, or it has just left, closed in the current window -/
theorem Inv.gone_next (hI : Inv e s q seen sd w (a :: rest))
    (hn : a.next = (rest.find? (fun x => decide (x.point = a.point))).map (·.stamp)) {q' : List Pt}
    (hout : a.point ∉ q' → bToBuf e a = false)
    (hleft : ∀ p ∈ q, p ∉ q' → p ≠ a.point → IsReady s p) :
    ∀ k ∈ a.gkey e :: seen, k.1 ∉ q' → ∀ x ∈ rest, x.gkey e ≠ k := by
  have hend := no_later_same_group hI.contig hn
  intro k hk hkq x hx hxk
  have hxp : x.point = k.1 := by rw [← hxk]; rfl
  have hxw : win e x = k.2 := by rw [← hxk]; rfl
  rcases List.mem_cons.1 hk with rfl | hk
  · exact hend (hout hkq) x hx hxp hxw
  · by_cases hkq0 : k.1 ∈ q
    · have hcl : win e x ≠ w := by
        by_cases hka : k.1 = a.point
        · rw [← hI.win_of_mem hkq0]; exact hend (hout (hka ▸ hkq)) x hx (hxp.trans hka)
        · exact hI.cls _ hkq0 (hleft _ hkq0 hkq hka) x (List.mem_cons_of_mem _ hx) hxp
      exact hI.past k hk (fun h => hcl (hxw.trans h)) x (List.mem_cons_of_mem _ hx) hxw
    · exact hI.gone k hk hkq0 x (List.mem_cons_of_mem _ hx) hxk

/-- the dirty flags after the row, with that of the accessed line having absorbed `a.wb`, still say
    which groups of the current window contain a written-back row -/
theorem Inv.dirty_next (hI : Inv e s q seen sd w (a :: rest)) {p : Pt}
    (hp : p ∈ q ∨ p = a.point) :
    (isDirty s.objs p || (decide (p = a.point) && a.wb)) = true
      ↔ (p, win e a) ∈ (if a.wb then a.gkey e :: sd else sd) := by
  rw [mem_sd_next]
  by_cases hpa : p = a.point
  · subst hpa
    have key : isDirty s.objs a.point = true ↔ (a.point, win e a) ∈ sd := by
      by_cases hq : a.point ∈ q
      · rw [hI.win_of_mem hq]; exact hI.dirty _ hq
      · have h1 : isDirty s.objs a.point = false := by
          simp only [isDirty, hI.sinv.lookup_none hq]
        have h2 : (a.point, win e a) ∉ sd := fun h => hI.miss_new hq (hI.sdsub _ h)
        simp [h1, h2]
    simp only [decide_true, Bool.true_and, Bool.or_eq_true, key, gkey_eq, and_true]
    exact or_comm
  · have hpq := hp.resolve_right hpa
    simp only [hpa, decide_false, Bool.false_and, Bool.or_false]
    rw [hI.dirty p hpq, ← hI.win_of_mem hpq]
    constructor
    · exact Or.inr
    · rintro (⟨_, h⟩ | h)
      · exact absurd (congrArg Prod.fst h) hpa
      · exact h

/-- One row consumed.  Whatever the step does to the state, the invariant moves on to the rest of the
    trace if: the resident lines are old ones or the accessed one; readiness of the other lines is
    unchanged; the accessed line, if resident afterwards, is ready exactly when its group ends here,
    and if not resident its group ends here; the other lines that left were ready; the dirty flag of
    the accessed line has absorbed `a.wb`. -/
theorem Inv.advance (hI : Inv e s q seen sd w (a :: rest))
    (hn : a.next = (rest.find? (fun x => decide (x.point = a.point))).map (·.stamp))
    {s' : B1} {q' : List Pt} (hs : SInv s' q') (hh : alookup s'.ready s'.drain = none)
    (hsub : ∀ p ∈ q', p ∈ q ∨ p = a.point)
    (hrdy : ∀ p ∈ q', p ≠ a.point → (IsReady s' p ↔ IsReady s p))
    (hacc : a.point ∈ q' → (IsReady s' a.point ↔ bToBuf e a = false))
    (hout : a.point ∉ q' → bToBuf e a = false)
    (hleft : ∀ p ∈ q, p ∉ q' → p ≠ a.point → IsReady s p)
    (hdirty : ∀ p ∈ q', isDirty s'.objs p = (isDirty s.objs p || (decide (p = a.point) && a.wb))) :
    Inv e s' q' (a.gkey e :: seen) (if a.wb then a.gkey e :: sd else sd) (win e a) rest := by
  have hwq : ∀ p ∈ q, win e a = w := fun p hp => hI.win_of_mem hp
  have hold : ∀ p ∈ q', p ≠ a.point → p ∈ q := fun p hp hne => (hsub p hp).resolve_right hne
  -- if the group of the accessed line ends here, no later row belongs to it
  have hend : bToBuf e a = false → ∀ x ∈ rest, x.point = a.point → win e x ≠ win e a :=
    no_later_same_group hI.contig hn
  refine ⟨hs, hh, ?cur, ?opn, ?cls, hI.gone_next hn hout hleft, ?sdsub,
    fun p hp => by rw [hdirty p hp]; exact hI.dirty_next (hsub p hp),
    hI.windows_next, fun _ => hI.contig.1, hI.contig.2⟩
  case cur =>
    intro p hp
    by_cases hpa : p = a.point
    · rw [hpa]; exact List.mem_cons_self
    · rw [hwq p (hold p hp hpa)]; exact List.mem_cons_of_mem _ (hI.cur p (hold p hp hpa))
  case opn =>
    intro p hp hnr
    by_cases hpa : p = a.point
    · subst hpa
      cases hb : bToBuf e a
      · exact absurd ((hacc hp).2 hb) hnr
      · exact (bToBuf_iff e a rest hn).1 hb
    · have hpq := hold p hp hpa
      obtain ⟨x, hx, hxw⟩ := hI.opn p hpq (fun h => hnr ((hrdy p hp hpa).2 h))
      rw [List.find?_cons_of_neg (by simpa using Ne.symm hpa)] at hx
      exact ⟨x, hx, by rw [hwq p hpq]; exact hxw⟩
  case cls =>
    intro p hp hr x hx hxp
    by_cases hpa : p = a.point
    · subst hpa; exact hend ((hacc hp).1 hr) x hx hxp
    · have hpq := hold p hp hpa
      rw [hwq p hpq]
      exact hI.cls p hpq ((hrdy p hp hpa).1 hr) x (List.mem_cons_of_mem _ hx) hxp
  case sdsub =>
    intro k hk
    rcases (mem_sd_next k).1 hk with ⟨_, rfl⟩ | h
    · exact List.mem_cons_self
    · exact List.mem_cons_of_mem _ (hI.sdsub k h)

/-- a new line enters at the back of the queue with the next free index -/
theorem SInv.push {s : B1} {q : List Pt} (hs : SInv s q) {p : Pt} (hp : p ∉ q) (b : Bool)
    (reads' occ' : Nat) :
    SInv { s with reads := reads', objs := ainsert s.objs p ⟨b, s.fill⟩, fill := s.fill + 1, occ := occ' }
      (q ++ [p]) := by
  have hnone := hs.lookup_none hp
  refine ⟨?_, ?_, ?_, ?_, ?_⟩
  · exact List.nodup_append.2 ⟨hs.nodup, by simp, by
      intro x hx y hy; simp at hy; subst hy; intro e; exact hp (e ▸ hx)⟩
  · intro p'
    show (alookup (ainsert s.objs p ⟨b, s.fill⟩) p').isSome = true ↔ p' ∈ q ++ [p]
    rw [alookup_ainsert]
    by_cases h : p = p'
    · subst h; simp
    · simp only [h, if_false, List.mem_append, List.mem_singleton]
      rw [hs.mem p']
      exact ⟨Or.inl, fun h1 => h1.resolve_right (fun h2 => h h2.symm)⟩
  · show QOK (ainsert s.objs p ⟨b, s.fill⟩) s.drain (q ++ [p])
    rw [hs.fill]; exact qok_append hs.qok hp _
  · show s.fill + 1 = s.drain + (q ++ [p]).length
    rw [hs.fill, List.length_append, List.length_singleton, Nat.add_assoc]
  · intro j p' hj
    obtain ⟨d, hd⟩ := hs.rdy j p' hj
    have hne : p ≠ p' := by
      intro e; rw [← e, hnone] at hd; cases hd
    exact ⟨d, by show alookup (ainsert s.objs p _) p' = _; rw [alookup_ainsert_ne _ _ hne]; exact hd⟩

theorem dirtyCount_push (objs : Objs) {q : List Pt} {p : Pt} (hp : p ∉ q) (en : BEntry) :
    dirtyCount (ainsert objs p en) (q ++ [p]) = dirtyCount objs q + (if en.dirty then 1 else 0) := by
  have hq : dirtyCount (ainsert objs p en) q = dirtyCount objs q :=
    dirtyCount_congr (fun p' hpq => isDirty_ainsert_ne _ _ (fun e : p = p' => hp (e ▸ hpq)))
  rw [dirtyCount_append, isDirty_ainsert_self, hq]

/-- miss, and the line will be used again inside its window: it is filled -/
theorem Inv.step_fill (hI : Inv e s q seen sd w (a :: rest))
    (hn : a.next = (rest.find? (fun x => decide (x.point = a.point))).map (·.stamp))
    (hp : a.point ∉ q) (hb : bToBuf e a = true) :
    ∃ q', Inv e (bstep e ls s a) q' (a.gkey e :: seen) (if a.wb then a.gkey e :: sd else sd)
            (win e a) rest ∧
      (bstep e ls s a).reads = s.reads + (if a.isWrite then 0 else ls) ∧
      (bstep e ls s a).writes + ls * dirtyCount (bstep e ls s a).objs q'
        = s.writes + ls * dirtyCount s.objs q + (if a.wb then ls else 0) := by
  have hnone := hI.sinv.lookup_none hp
  rw [bstep_fill hnone hb]
  have hne : ∀ p ∈ q ++ [a.point], p ≠ a.point → a.point ≠ p ∧ p ∈ q := by
    intro p hpq h
    rcases List.mem_append.1 hpq with h1 | h1
    · exact ⟨Ne.symm h, h1⟩
    · exact absurd (List.mem_singleton.1 h1) h
  refine ⟨q ++ [a.point], hI.advance hn (hI.sinv.push hp a.wb _ _) hI.head ?_ ?_ ?_ ?_ ?_ ?_, ?_, ?_⟩
  · intro p hpq
    rcases List.mem_append.1 hpq with h1 | h1
    · exact Or.inl h1
    · exact Or.inr (List.mem_singleton.1 h1)
  · intro p hpq h
    exact IsReady.congr (alookup_ainsert_ne _ _ (hne p hpq h).1) rfl
  · -- the new line is not ready: its queue slot is empty
    intro _
    rw [hb]
    refine ⟨?_, fun h => by cases h⟩
    rintro ⟨en, h1, h2⟩
    have h1' : alookup (ainsert s.objs a.point ⟨a.wb, s.fill⟩) a.point = some en := h1
    rw [alookup_ainsert_self] at h1'; cases h1'
    obtain ⟨d, hd⟩ := hI.sinv.rdy _ _ h2
    rw [hnone] at hd; cases hd
  · intro h; exact absurd (List.mem_append_right q List.mem_cons_self) h
  · intro p hpq h; exact absurd (List.mem_append_left _ hpq) h
  · intro p hpq
    show isDirty (ainsert s.objs a.point ⟨a.wb, s.fill⟩) p = _
    by_cases h : p = a.point
    · subst h; rw [isDirty_ainsert_self]; simp [isDirty, hnone]
    · rw [isDirty_ainsert_ne _ _ (hne p hpq h).1]; simp [h]
  · cases a.isWrite <;> rfl
  · show s.writes + ls * dirtyCount (ainsert s.objs a.point ⟨a.wb, s.fill⟩) (q ++ [a.point]) = _
    rw [dirtyCount_push _ hp]
    cases a.wb <;> simp [Nat.mul_add] <;> omega

/-- miss, and the line is not used again inside its window: it bypasses the buffet -/
theorem Inv.step_bypass (hI : Inv e s q seen sd w (a :: rest))
    (hn : a.next = (rest.find? (fun x => decide (x.point = a.point))).map (·.stamp))
    (hp : a.point ∉ q) (hb : bToBuf e a = false) :
    Inv e (bstep e ls s a) q (a.gkey e :: seen) (if a.wb then a.gkey e :: sd else sd)
            (win e a) rest ∧
      (bstep e ls s a).reads = s.reads + (if a.isWrite then 0 else ls) ∧
      (bstep e ls s a).writes + ls * dirtyCount (bstep e ls s a).objs q
        = s.writes + ls * dirtyCount s.objs q + (if a.wb then ls else 0) := by
  rw [bstep_bypass (hI.sinv.lookup_none hp) hb]
  -- `SInv` does not mention `reads` and `writes`, so its fields carry over as they are
  refine ⟨hI.advance hn ⟨hI.sinv.nodup, hI.sinv.mem, hI.sinv.qok, hI.sinv.fill, hI.sinv.rdy⟩ hI.head
    (fun p h => Or.inl h) (fun p _ _ => Iff.rfl) (fun h => absurd h hp) (fun _ => hb)
    (fun p h h' => absurd h h') ?_, ?_, ?_⟩
  · intro p hpq
    have : p ≠ a.point := fun e => hp (e ▸ hpq)
    simp [this]
  · cases a.isWrite <;> rfl
  · show (if a.wb then s.writes + ls else s.writes) + ls * dirtyCount s.objs q = _
    cases a.wb <;> simp <;> omega

/-- changing the dirty flag of a resident line, and possibly handing that line to the drain queue,
    keeps the queue structure -/
theorem SInv.set_flag {s : B1} {q : List Pt} (hs : SInv s q) {p : Pt} {en : BEntry}
    (hen : alookup s.objs p = some en) (b : Bool) {ready' : List (Nat × Pt)}
    (hr : ∀ j p', alookup ready' j = some p' → alookup s.ready j = some p' ∨ (j = en.idx ∧ p' = p)) :
    SInv { s with objs := ainsert s.objs p ⟨b, en.idx⟩, ready := ready' } q := by
  -- every line keeps its queue index
  have hsame : ∀ p' en', alookup s.objs p' = some en' →
      ∃ d, alookup (ainsert s.objs p ⟨b, en.idx⟩) p' = some ⟨d, en'.idx⟩ := by
    intro p' en' hen'
    by_cases h : p = p'
    · subst h; rw [hen] at hen'; cases hen'; exact ⟨_, alookup_ainsert_self _ _ _⟩
    · exact ⟨en'.dirty, by rw [alookup_ainsert_ne _ _ h, hen']⟩
  refine ⟨hs.nodup, ?_, qok_congr hs.qok (fun p' _ en' h => hsame p' en' h), hs.fill, ?_⟩
  · intro p'
    show (alookup (ainsert s.objs p ⟨b, en.idx⟩) p').isSome = true ↔ p' ∈ q
    by_cases h : p = p'
    · subst h; simp [alookup_ainsert_self, hs.mem_of_lookup hen]
    · rw [alookup_ainsert_ne _ _ h]; exact hs.mem p'
  · intro j p' hj
    rcases hr j p' hj with hj | ⟨rfl, rfl⟩
    · obtain ⟨d, hd⟩ := hs.rdy j p' hj
      exact hsame p' _ hd
    · exact ⟨_, alookup_ainsert_self _ _ _⟩

theorem isDirty_set_flag {objs : Objs} {p : Pt} {d : Bool} (hd : isDirty objs p = d) (wb : Bool) (i : Nat)
    (p' : Pt) :
    isDirty (ainsert objs p ⟨d || wb, i⟩) p' = (isDirty objs p' || (decide (p' = p) && wb)) := by
  by_cases h : p' = p
  · subst h; simp [isDirty_ainsert_self, hd]
  · simp [isDirty_ainsert_ne _ _ (Ne.symm h), h]

/-- the write-backs owed grow by one line exactly when a clean line gets its first written-back row;
    `n` is what has been charged already, and `k ∈ sd` is how the invariant records that the line is dirty -/
theorem dirtyCount_touch {ls : Nat} (n : Nat) {objs : Objs} {p : Pt} {d : Bool} (hd : isDirty objs p = d)
    {q : List Pt} (hnd : q.Nodup) (hp : p ∈ q) (i : Nat) (wb : Bool) {k : GKey} {sd : List GKey}
    (hiff : d = true ↔ k ∈ sd) :
    n + ls * dirtyCount (ainsert objs p ⟨d || wb, i⟩) q
      = n + ls * dirtyCount objs q + (if wb = true ∧ k ∉ sd then ls else 0) := by
  rw [dirtyCount_set objs p d wb i hd q hnd hp]
  have hnew : (wb && !d) = true ↔ (wb = true ∧ k ∉ sd) := by
    rw [← hiff]; cases wb <;> cases d <;> simp
  by_cases hc : wb = true ∧ k ∉ sd
  · simp only [if_pos hc, if_pos (hnew.2 hc), Nat.mul_add, Nat.mul_one]; omega
  · simp only [if_neg hc, if_neg (fun h => hc (hnew.1 h)), Nat.add_zero]

/-- handing a resident line to the drain queue makes it ready; the other lines have other queue
    indices, so their slots are untouched -/
theorem isReady_mark {s : B1} {q : List Pt} (hs : SInv s q) {p : Pt} (hp : p ∈ q) {en : BEntry}
    (hen : alookup s.objs p = some en) (b : Bool) :
    IsReady { s with objs := ainsert s.objs p ⟨b, en.idx⟩, ready := ainsert s.ready en.idx p } p ∧
    ∀ p' ∈ q, p' ≠ p →
      (IsReady { s with objs := ainsert s.objs p ⟨b, en.idx⟩, ready := ainsert s.ready en.idx p } p'
        ↔ IsReady s p') := by
  refine ⟨⟨_, alookup_ainsert_self _ _ _, alookup_ainsert_self _ _ _⟩, ?_⟩
  intro p' hpq hne
  have hobjs : alookup (ainsert s.objs p ⟨b, en.idx⟩) p' = alookup s.objs p' :=
    alookup_ainsert_ne _ _ (Ne.symm hne)
  have hslot : ∀ en', alookup s.objs p' = some en' →
      alookup (ainsert s.ready en.idx p) en'.idx = alookup s.ready en'.idx :=
    fun en' hen' => alookup_ainsert_ne _ _ (fun hi => hne (qok_inj hs.qok hp hpq hen hen' hi).symm)
  constructor
  · rintro ⟨en', h1, h2⟩
    have h1' : alookup s.objs p' = some en' := by rw [← hobjs]; exact h1
    exact ⟨en', h1', by rw [← hslot en' h1']; exact h2⟩
  · rintro ⟨en', h1, h2⟩
    exact ⟨en', by show alookup (ainsert s.objs p ⟨b, en.idx⟩) p' = _; rw [hobjs]; exact h1,
      by show alookup (ainsert s.ready en.idx p) en'.idx = _; rw [hslot en' h1]; exact h2⟩

/-- hit: the line is open and in the current window; it stays (used again in the window) or is
    handed to the in-order drain queue (last use in the window) -/
theorem Inv.step_hit (hI : Inv e s q seen sd w (a :: rest))
    (hn : a.next = (rest.find? (fun x => decide (x.point = a.point))).map (·.stamp))
    (hp : a.point ∈ q) :
    ∃ q', Inv e (bstep e ls s a) q' (a.gkey e :: seen) (if a.wb then a.gkey e :: sd else sd)
            (win e a) rest ∧
      (bstep e ls s a).reads = s.reads ∧
      (bstep e ls s a).writes + ls * dirtyCount (bstep e ls s a).objs q'
        = s.writes + ls * dirtyCount s.objs q + (if a.wb = true ∧ a.gkey e ∉ sd then ls else 0) := by
  obtain ⟨hnr, hw⟩ := hI.hit_open hp
  obtain ⟨en, hen⟩ := Option.isSome_iff_exists.1 ((hI.sinv.mem _).2 hp)
  have hdirty : isDirty s.objs a.point = en.dirty := by simp only [isDirty, hen]
  have hwrites := dirtyCount_touch (ls := ls) s.writes hdirty hI.sinv.nodup hp en.idx a.wb
    (k := a.gkey e) (sd := sd) (by have := hI.dirty _ hp; rwa [hdirty, ← hw, ← gkey_eq] at this)
  have hdirty1 := fun p (_ : p ∈ q) => isDirty_set_flag hdirty a.wb en.idx p
  cases hb : bToBuf e a
  · -- last use in the window: the line is marked ready and the queue drains as far as it can
    rw [bstep_hit_last hen hb]
    have hs1 := hI.sinv.set_flag hen (en.dirty || a.wb) (ready' := ainsert s.ready en.idx a.point)
      (fun j p' hj => by
        rw [alookup_ainsert] at hj
        split at hj
        · rename_i hji; cases hj; exact Or.inr ⟨hji.symm, rfl⟩
        · exact Or.inl hj)
    obtain ⟨hready1, hready_ne⟩ := isReady_mark hI.sinv hp hen (en.dirty || a.wb)
    obtain ⟨pre, q', hq, hs', hpre, hreads, hwr, hobjs, hready', hhead⟩ :=
      drainLoop_spec ls _ _ q hs1 (Nat.le_refl _)
    have hq'sub : ∀ p ∈ q', p ∈ q := fun p h => by rw [hq]; exact List.mem_append_right _ h
    refine ⟨q', hI.advance hn hs' hhead (fun p h => Or.inl (hq'sub p h)) ?_ ?_ (fun _ => hb) ?_ ?_,
      hreads, ?_⟩
    · intro p hpq h
      exact (hready' p hpq).trans (hready_ne p (hq'sub p hpq) h)
    · intro hpq
      exact ⟨fun _ => hb, fun _ => (hready' _ hpq).2 hready1⟩
    · -- a line drained now was ready
      intro p hpq hpq' h
      have : p ∈ pre := by
        rw [hq] at hpq
        exact (List.mem_append.1 hpq).resolve_right hpq'
      exact (hready_ne p hpq h).1 (hpre p this)
    · intro p hpq
      simp only [isDirty, hobjs p hpq]
      exact hdirty1 p (hq'sub p hpq)
    · rw [hwr]; exact hwrites
  · -- used again in the window: only the dirty flag changes
    rw [bstep_hit_again hen hb]
    refine ⟨q, hI.advance hn (hI.sinv.set_flag hen _ (fun _ _ h => Or.inl h)) hI.head
      (fun p h => Or.inl h) ?_ ?_ (fun h => absurd hp h) (fun p h h' => absurd h h') hdirty1, rfl, hwrites⟩
    · intro p _ h
      exact IsReady.congr (alookup_ainsert_ne _ _ (Ne.symm h)) rfl
    · intro _
      refine ⟨?_, fun h => by rw [hb] at h; cases h⟩
      rintro ⟨en', h1, h2⟩
      have : alookup (ainsert s.objs a.point ⟨en.dirty || a.wb, en.idx⟩) a.point = some en' := h1
      rw [alookup_ainsert_self] at this; cases this
      exact absurd ⟨en, hen, h2⟩ hnr

/-- one row, whatever the case: a fill is charged for the first row of a group if it is a read; the
    write-backs charged or still owed grow by one line for the first written-back row of a group -/
theorem Inv.step (hI : Inv e s q seen sd w (a :: rest))
    (hn : a.next = (rest.find? (fun x => decide (x.point = a.point))).map (·.stamp)) :
    ∃ q', Inv e (bstep e ls s a) q' (a.gkey e :: seen) (if a.wb then a.gkey e :: sd else sd)
            (win e a) rest ∧
      (bstep e ls s a).reads = s.reads + ls * (if !seen.contains (a.gkey e) && !a.isWrite then 1 else 0) ∧
      (bstep e ls s a).writes + ls * dirtyCount (bstep e ls s a).objs q'
        = s.writes + ls * dirtyCount s.objs q + ls * (if a.wb && !sd.contains (a.gkey e) then 1 else 0) := by
  by_cases hp : a.point ∈ q
  · obtain ⟨q', hI', hr, hw⟩ := hI.step_hit (ls := ls) hn hp
    have hk : a.gkey e ∈ seen := by rw [gkey_eq, (hI.hit_open hp).2]; exact hI.cur _ hp
    refine ⟨q', hI', ?_, ?_⟩
    · rw [hr]; simp [hk]
    · rw [hw]; cases a.wb <;> by_cases hsd : a.gkey e ∈ sd <;> simp [hsd]
  · -- a miss starts a new group
    have hk := hI.miss_new hp
    have hksd : a.gkey e ∉ sd := fun h => hk (hI.sdsub _ h)
    have e1 : s.reads + (if a.isWrite then 0 else ls)
        = s.reads + ls * (if !seen.contains (a.gkey e) && !a.isWrite then 1 else 0) := by
      cases a.isWrite <;> simp [hk]
    have e2 : ∀ n : Nat, n + (if a.wb then ls else 0)
        = n + ls * (if a.wb && !sd.contains (a.gkey e) then 1 else 0) := by
      intro n; cases a.wb <;> simp [hksd]
    cases hb : bToBuf e a
    · obtain ⟨hI', hr, hw⟩ := hI.step_bypass (ls := ls) hn hp hb
      exact ⟨q, hI', hr.trans e1, hw.trans (e2 _)⟩
    · obtain ⟨q', hI', hr, hw⟩ := hI.step_fill (ls := ls) hn hp hb
      exact ⟨q', hI', hr.trans e1, hw.trans (e2 _)⟩

end

theorem inv_run (e ls : Nat) : ∀ (rem : List Acc) (s : B1) (q : List Pt) (seen sd : List GKey)
    (w : List Nat), Inv e s q seen sd w rem → nextOkB rem = true →
    (rem.foldl (bstep e ls) s).reads = s.reads + ls * fillsFrom e seen rem ∧
    (rem.foldl (bstep e ls) s).writes = s.writes + ls * dirtyCount s.objs q + ls * wbFrom e sd rem
  | [], s, q, seen, sd, w, hI, _ => by
    -- nothing is left to come, so no resident line is open, and the head of the queue always is
    have hq : q = [] := by
      apply q_nil_of_all_ready hI.sinv hI.head
      intro p hp
      apply Classical.byContradiction
      intro hnr
      obtain ⟨x, hx, _⟩ := hI.opn p hp hnr
      cases hx
    subst hq
    exact ⟨rfl, rfl⟩
  | a :: rest, s, q, seen, sd, w, hI, hn => by
    have hn := nextOkB_cons.1 hn
    obtain ⟨q', hI', hr, hw⟩ := hI.step (ls := ls) hn.1
    obtain ⟨ih1, ih2⟩ := inv_run e ls rest _ q' _ _ _ hI' hn.2
    have hwb : wbFrom e sd (a :: rest) = (if a.wb && !sd.contains (a.gkey e) then 1 else 0)
        + wbFrom e (if a.wb then a.gkey e :: sd else sd) rest := by
      cases h : a.wb
      · simp only [wbFrom, h, Bool.false_and, Bool.false_eq_true, if_false, Nat.zero_add]
      · cases h' : sd.contains (a.gkey e) <;>
          simp only [wbFrom, h, h', Bool.true_and, Bool.not_false, Bool.not_true, Bool.false_eq_true,
            if_false, if_true]
    rw [List.foldl_cons, ih1, ih2, hr, hwb]
    constructor
    · simp only [fillsFrom, Nat.mul_add, Nat.add_assoc]
    · simp only [Nat.mul_add]; omega

theorem inv_init (e : Nat) (accs : List Acc) (hc : WinContig e accs) : Inv e {} [] [] [] [] accs where
  sinv := ⟨List.nodup_nil, fun p => by simp [alookup], trivial, rfl, fun j p h => by simp [alookup] at h⟩
  head := rfl
  cur := fun _ h => absurd h List.not_mem_nil
  opn := fun _ h => absurd h List.not_mem_nil
  cls := fun _ h => absurd h List.not_mem_nil
  gone := fun _ h => absurd h List.not_mem_nil
  sdsub := fun _ h => absurd h List.not_mem_nil
  dirty := fun _ h => absurd h List.not_mem_nil
  past := fun _ h => absurd h List.not_mem_nil
  cur_adj := fun h => absurd rfl h
  contig := hc

theorem buffet1_spec (e ls : Nat) (accs : List Acc) (hn : nextOkB accs = true) (hc : WinContig e accs) :
    (buffet1 e ls accs).reads = ls * fillsSpec e accs ∧
    (buffet1 e ls accs).writes = ls * writebacksSpec e accs := by
  have := inv_run e ls accs {} [] [] [] [] (inv_init e accs hc) hn
  simpa [buffet1, fillsSpec, writebacksSpec, dirtyCount] using this

theorem winContig_aux (e : Nat) (w : List Nat) : ∀ (l : List Acc),
    (l.dropWhile (fun x => x.stamp.take e == w)).all (fun x => x.stamp.take e != w) = true →
    ∀ pre x post, l = pre ++ x :: post → win e x = w → ∀ y ∈ pre, win e y = w
  | [], _, pre, x, post, hl, _, _, _ => by simp at hl
  | h :: t, hd, pre, x, post, hl, hxw, y, hy => by
    by_cases hh : h.stamp.take e = w
    · have hd' : (t.dropWhile (fun x => x.stamp.take e == w)).all (fun x => x.stamp.take e != w) = true := by
        rwa [List.dropWhile_cons_of_pos (by simpa using hh)] at hd
      cases pre with
      | nil => cases hy
      | cons p0 pre' =>
        simp only [List.cons_append, List.cons.injEq] at hl
        rcases List.mem_cons.1 hy with rfl | hy'
        · rw [← hl.1]; exact hh
        · exact winContig_aux e w t hd' pre' x post hl.2 hxw y hy'
    · exfalso
      have hd' : (h :: t).all (fun x => x.stamp.take e != w) = true := by
        rwa [List.dropWhile_cons_of_neg (by simpa using hh)] at hd
      have hx : x ∈ h :: t := by rw [hl]; simp
      -- no row from `h` on has window `w`, but `x` has
      have hne : (x.stamp.take e != w) = true := List.all_eq_true.1 hd' x hx
      have hxw' : x.stamp.take e = w := hxw
      rw [hxw', bne_self_eq_false] at hne; cases hne

theorem winContig_of_B (e : Nat) : ∀ {accs : List Acc}, winContigB e accs = true → WinContig e accs
  | [], _ => trivial
  | a :: rest, h => by
    simp only [winContigB, Bool.and_eq_true] at h
    exact ⟨winContig_aux e (a.stamp.take e) rest h.1, winContig_of_B e h.2⟩

/-- in a stamp-sorted trace a row between two rows of one window belongs to that window -/
theorem winContig_of_pairwise (e : Nat) : ∀ {accs : List Acc},
    accs.Pairwise (fun a b => lexLe a.stamp b.stamp = true) → WinContig e accs
  | [], _ => trivial
  | a :: rest, h => by
    obtain ⟨h1, h2⟩ := List.pairwise_cons.1 h
    refine ⟨?_, winContig_of_pairwise e h2⟩
    intro pre x post hl hxw y hy
    subst hl
    exact take_between e a.stamp y.stamp x.stamp (h1 y (List.mem_append_left _ hy))
      ((List.pairwise_append.1 h2).2.2 y hy x List.mem_cons_self) hxw.symm

theorem winContig_of_sorted (e : Nat) {accs : List Acc}
    (h : stampsSortedB (accs.map (·.stamp)) = true) : WinContig e accs :=
  winContig_of_pairwise e (List.pairwise_map.1 (stampsSorted_pairwise h))

theorem fillsFrom_le (e : Nat) : ∀ (seen : List GKey) (accs : List Acc),
    fillsFrom e seen accs ≤ (accs.filter (fun a => !a.isWrite)).length
  | _, [] => Nat.le_refl _
  | seen, a :: rest => by
    have := fillsFrom_le e (a.gkey e :: seen) rest
    simp only [fillsFrom, List.filter_cons]
    cases a.isWrite
    · simp only [Bool.not_false, Bool.and_true, if_true, List.length_cons]
      split <;> omega
    · simpa using this

theorem distinct_le_fillsFrom (e : Nat) : ∀ (accs : List Acc) (seenP : List (List Nat)) (seen : List GKey),
    (∀ k ∈ seen, k.1 ∈ seenP) → distinctFirstReads seenP accs ≤ fillsFrom e seen accs
  | [], _, _, _ => Nat.le_refl _
  | a :: rest, seenP, seen, h => by
    have ih := distinct_le_fillsFrom e rest (a.point :: seenP) (a.gkey e :: seen) (by
      intro k hk
      rcases List.mem_cons.1 hk with rfl | hk
      · exact List.mem_cons_self
      · exact List.mem_cons_of_mem _ (h k hk))
    simp only [distinctFirstReads, fillsFrom]
    by_cases hp : a.point ∈ seenP
    · simp [hp]; omega
    · have : a.gkey e ∉ seen := fun hk => hp (h _ hk)
      simp [hp, this]; omega

theorem wbFrom_le (e : Nat) : ∀ (sd : List GKey) (accs : List Acc),
    wbFrom e sd accs ≤ (accs.filter (fun a => a.wb)).length
  | _, [] => Nat.le_refl _
  | sd, a :: rest => by
    simp only [wbFrom, List.filter_cons]
    cases hwb : a.wb
    · simpa using wbFrom_le e sd rest
    · have := wbFrom_le e (a.gkey e :: sd) rest
      simp only [if_true, List.length_cons]
      split <;> omega

end Traffic
end Ft
