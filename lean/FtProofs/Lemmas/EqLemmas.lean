/-
  `present` and `wfB`, and `__eq__` as a walk over the union of the presented elements
  (`all_eqRow_iff_groups`, `fiberEq_succ_iff`).
-/
import FtProofs.Lemmas.Content
import FtModel.Eq
set_option linter.unusedSectionVars false
namespace Ft
open StrictTotal

section
variable {κ ν : Type} [LT κ] [DecidableRel (α := κ) (· < ·)] [DecidableEq κ] [StrictTotal κ]
variable {π : Type}

/-- the `__eq__` walk over the union accepts iff the two presented lists have the same
    coordinates and pointwise accepted payloads — phrased with abstract "content" maps
    `ca cb` that characterise acceptance -/
theorem all_eqRow_iff_groups {γ : Type} (P : π → π → Bool) (ca cb : π → γ) (pa pb : Fib κ π)
    (h : ∀ e ∈ pa, ∀ f ∈ pb, (P e.2 f.2 = true ↔ ca e.2 = cb f.2)) :
    (orMerge pa pb).all (eqRow P) = true ↔
      pa.map (fun e => (e.1, ca e.2)) = pb.map (fun f => (f.1, cb f.2)) := by
  -- a one-sided row makes `all (eqRow P)` false by computation, and then the key lists differ too
  fun_induction orMerge pa pb with
  | case1 b =>
    cases b with
    | nil => exact ⟨fun _ => rfl, fun _ => rfl⟩
    | cons y s => exact ⟨fun h => absurd h Bool.false_ne_true, fun h => absurd h.symm (List.cons_ne_nil _ _)⟩
  | case2 e r => exact ⟨fun h => absurd h Bool.false_ne_true, fun h => absurd h (List.cons_ne_nil _ _)⟩
  | case3 pa ra ca' pb rb ih =>
    have ih' := ih (fun e he f hf => h e (List.mem_cons_of_mem _ he) f (List.mem_cons_of_mem _ hf))
    have hh := h (ca', pa) (List.mem_cons_self ..) (ca', pb) (List.mem_cons_self ..)
    simp only [List.all_cons, Bool.and_eq_true, ih', List.map_cons, List.cons.injEq, Prod.mk.injEq,
      eqRow, true_and]
    simp only at hh
    rw [hh]
  | case4 ca' pa ra cb' pb rb hne hlt ih =>
    exact ⟨fun h => absurd h Bool.false_ne_true,
      fun h => absurd (Prod.mk.inj (List.cons.inj h).1).1 hne⟩
  | case5 ca' pa ra cb' pb rb hne hnlt ih =>
    exact ⟨fun h => absurd h Bool.false_ne_true,
      fun h => absurd (Prod.mk.inj (List.cons.inj h).1).1 hne⟩

end

section
variable {κ ν : Type} [LT κ] [DecidableRel (α := κ) (· < ·)] [DecidableEq κ] [StrictTotal κ] [DecidableEq ν]

/-- the groups (coordinate, content of the sub-tree) of the presented elements -/
def groups (dflt : ν) (d : Nat) (f : Tree κ ν (d + 1)) : List (κ × List (List κ × ν)) :=
  (present dflt d f).map (fun e => (e.1, content dflt d e.2))

theorem content_eq_flat_groups (dflt : ν) (d : Nat) (f : Tree κ ν (d + 1)) :
    content dflt (d + 1) f = flat (groups dflt d f) := by
  rw [content_present, groups, flat, List.flatMap_map]

theorem mem_present {dflt : ν} {d : Nat} {f : Tree κ ν (d + 1)} {e : κ × Tree κ ν d} :
    e ∈ present dflt d f ↔ e ∈ (show List (κ × Tree κ ν d) from f) ∧ isEmpty dflt d e.2 = false := by
  unfold present
  rw [List.mem_filter]
  simp

theorem present_sorted {dflt : ν} {d : Nat} {f : Tree κ ν (d + 1)}
    (h : Sorted (show List (κ × Tree κ ν d) from f)) : Sorted (present dflt d f) :=
  Sorted.filter h _

theorem groups_sorted {dflt : ν} {d : Nat} {f : Tree κ ν (d + 1)}
    (h : Sorted (show List (κ × Tree κ ν d) from f)) : Sorted (groups dflt d f) :=
  sorted_map_key (present dflt d f) (fun e => content dflt d e.2) (present_sorted h)

theorem groups_nonempty {dflt : ν} {d : Nat} {f : Tree κ ν (d + 1)} :
    ∀ g ∈ groups dflt d f, g.2 ≠ [] := by
  intro g hg
  obtain ⟨e, he, rfl⟩ := List.mem_map.1 hg
  intro hc
  have := (isEmpty_iff_content dflt d e.2).2 hc
  rw [(mem_present.1 he).2] at this
  cases this

/-- one level of `__eq__`: if the comparison one level down decides equality of content on the
    presented payloads, the comparison of the fibers decides equality of their content -/
theorem fiberEq_succ_iff (da db : ν) (d : Nat) (a b : Tree κ ν (d + 1))
    (ha : WF (d + 1) a) (hb : WF (d + 1) b)
    (h : ∀ e ∈ present da d a, ∀ f ∈ present db d b,
      (fiberEq da db d e.2 f.2 = true ↔ content da d e.2 = content db d f.2)) :
    fiberEq da db (d + 1) a b = true ↔ content da (d + 1) a = content db (d + 1) b := by
  show (orMerge (present da d a) (present db d b)).all (eqRow (fiberEq da db d)) = true ↔ _
  rw [all_eqRow_iff_groups (fiberEq da db d) (content da d) (content db d) _ _ h,
    content_eq_flat_groups, content_eq_flat_groups]
  exact ⟨congrArg flat, flat_injective _ _ (groups_sorted ha.sorted) (groups_sorted hb.sorted)
    groups_nonempty groups_nonempty⟩

/-- on the payloads a compressed rank presents (the non-empty ones), `__eq__` decides equality of
    content: non-default leaves are compared by value, sub-fibers level by level -/
theorem presented_eq_iff (da db : ν) (d : Nat) : ∀ (a b : Tree κ ν (d + 1)),
    WF (d + 1) a → WF (d + 1) b → ∀ e ∈ present da d a, ∀ f ∈ present db d b,
    (fiberEq da db d e.2 f.2 = true ↔ content da d e.2 = content db d f.2) := by
  induction d with
  | zero =>
    intro _ _ _ _ e he f hf
    have hx : ¬ (show ν from e.2) = da := of_decide_eq_false (mem_present.1 he).2
    have hy : ¬ (show ν from f.2) = db := of_decide_eq_false (mem_present.1 hf).2
    show decide ((show ν from e.2) = (show ν from f.2)) = true ↔
      (if (show ν from e.2) = da then [] else [([], (show ν from e.2))]) =
      (if (show ν from f.2) = db then [] else [([], (show ν from f.2))])
    rw [if_neg hx, if_neg hy, decide_eq_true_eq]
    exact ⟨fun h => by rw [h], fun h => (Prod.mk.inj (List.cons.inj h).1).2⟩
  | succ d ih =>
    intro a b ha hb e he f hf
    have he' := ha.sub e (mem_present.1 he).1
    have hf' := hb.sub f (mem_present.1 hf).1
    exact fiberEq_succ_iff da db d e.2 f.2 he' hf' (ih e.2 f.2 he' hf')

theorem wfB_iff : ∀ (d : Nat) (t : Tree κ ν d), wfB d t = true ↔ WF d t := wfB_eq_true_iff

end
end Ft
