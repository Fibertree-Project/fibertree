/-
  Helper lemmas for C05 (populate): the loop as coded equals the declarative merge.
-/
import FtProofs.Lemmas.PointLemmas
import FtModel.Populate
set_option linter.unusedSectionVars false
namespace Ft
open StrictTotal

section
variable {κ π β : Type} [LT κ] [DecidableRel (α := κ) (· < ·)] [DecidableEq κ] [StrictTotal κ]

/-- the search of one iteration lands on the lower bound, whatever shortcut it takes: `a_pos` never runs
    ahead of it, and the start positions handed to `getPayload` are the bound itself or the one before -/
theorem popSearch_eq (z : Fib κ π) {apos : Nat} {bc : κ} (h : apos ≤ lowerBound z bc) :
    popSearch z apos bc = (lowerBound z bc, lowerBound z bc) := by
  have h1 : (if z.isEmpty then apos else apos + lowerBound (z.drop apos) bc) = lowerBound z bc := by
    cases z with
    | nil => rw [lowerBound_nil] at h ⊢; exact Nat.le_zero.1 h
    | cons e r => exact coord2posFrom_of_le _ h
  unfold popSearch
  rw [h1]
  refine congrArg (Prod.mk _) ?_
  -- `getPayload` was handed a start position `sp`, or none
  split
  · next sp hsp =>
    refine coord2posFrom_of_le z ?_
    have hprev : (if lowerBound z bc = 0 then none else some (lowerBound z bc - 1)) = some sp →
        sp ≤ lowerBound z bc := by
      intro h; split at h
      · cases h
      · cases h; exact Nat.sub_le _ _
    -- where `sp` came from: an empty destination hands over none; an element at the bound with the offered
    -- coordinate hands over the bound; otherwise the position before the bound, if there is one
    split at hsp
    · cases hsp
    · split at hsp
      · split at hsp
        · cases hsp; exact Nat.le_refl _
        · exact hprev hsp
      · exact hprev hsp
  · rfl

variable (mk : π) (rm : Bool → π → Bool) (body : κ → π → β → π)

theorem popSpec_nil_right (z : Fib κ π) : popSpec mk rm body z ([] : Fib κ β) = z := by
  cases z <;> simp [popSpec]

theorem popSpec_skip (A S : Fib κ π) (bc : κ) (bp : β) (rb : Fib κ β) (h : ∀ x ∈ A, x.1 < bc) :
    popSpec mk rm body (A ++ S) ((bc, bp) :: rb) = A ++ popSpec mk rm body S ((bc, bp) :: rb) := by
  induction A with
  | nil => rfl
  | cons e r ih =>
    obtain ⟨zc, zp⟩ := e
    rw [List.cons_append, popSpec, if_pos (h (zc, zp) (List.mem_cons_self ..)), List.cons_append,
      ih (fun x hx => h x (List.mem_cons_of_mem _ hx))]

/-- what a destination holds at coordinate `c`: nothing, or one element with the given payload -/
abbrev atKey (c : κ) (ex : Option π) : Fib κ π := (ex.map (Prod.mk c)).toList

theorem popSpec_atKey (ex : Option π) (G : Fib κ π) (bc : κ) (bp : β) (rb : Fib κ β) (hG : ∀ x ∈ G, bc < x.1) :
    popSpec mk rm body (atKey bc ex ++ G) ((bc, bp) :: rb) =
      popKeep rm ex.isNone bc (body bc (ex.getD mk) bp) ++ popSpec mk rm body G rb := by
  cases ex with
  | some sp => show popSpec mk rm body ((bc, sp) :: G) _ = _; rw [popSpec, if_neg (irrefl bc), if_pos rfl]; rfl
  | none =>
    show popSpec mk rm body G _ = _
    cases G with
    | nil => rw [popSpec]; rfl
    | cons e G' =>
      have := hG e (List.mem_cons_self ..)
      rw [popSpec, if_neg (lt_asymm' this), if_neg (fun h => lt_ne this h.symm)]; rfl

theorem popLoop_nil (z : Fib κ π) (apos : Nat) :
    popLoop mk rm body z apos ([] : Fib κ β) = (z, []) := by
  simp [popLoop]

end
end Ft

namespace Ft
open StrictTotal
section
variable {κ π β : Type} [LT κ] [DecidableRel (α := κ) (· < ·)] [DecidableEq κ] [StrictTotal κ]
variable (mk : π) (rm : Bool → π → Bool) (body : κ → π → β → π)

theorem exists_atKey_append {S : Fib κ π} {c : κ} (hs : Sorted S) (hS : ∀ x ∈ S, ¬ x.1 < c) :
    ∃ ex G, S = atKey c ex ++ G ∧ ∀ y ∈ G, c < y.1 := by
  cases S with
  | nil => exact ⟨none, [], rfl, fun _ h => by cases h⟩
  | cons e S' =>
    by_cases he : e.1 = c
    · exact ⟨some e.2, S', by rw [← he]; rfl, fun y hy => he ▸ hs.head_lt y hy⟩
    · refine ⟨none, e :: S', rfl, fun y hy => gt_of_not_lt_ne ?_ (hS y hy)⟩
      rcases List.mem_cons.1 hy with rfl | hy
      · exact he
      · exact fun h => hS e (List.mem_cons_self ..) (h ▸ hs.head_lt y hy)

theorem lookup_atKey_append (ex : Option π) {G : Fib κ π} {c : κ} (hG : ∀ y ∈ G, c < y.1) :
    lookup (atKey c ex ++ G) c = ex := by
  cases ex with
  | none => exact lookup_eq_none_of_lt hG
  | some sp => show lookup ((c, sp) :: G) c = _; rw [lookup_cons, if_pos rfl]

theorem lookup_atKey_append_ne (ex : Option π) (G : Fib κ π) {c c' : κ} (h : c ≠ c') :
    lookup (atKey c ex ++ G) c' = lookup G c' := by
  cases ex with
  | none => rfl
  | some sp => exact lookup_cons_ne h

/-- a sorted destination around a coordinate: what lies below it, what it holds there, what lies above it -/
theorem exists_split_at {z : Fib κ π} (hs : Sorted z) (c : κ) :
    ∃ A ex G, z = A ++ (atKey c ex ++ G) ∧ (∀ x ∈ A, x.1 < c) ∧ (∀ y ∈ G, c < y.1) := by
  obtain ⟨ex, G, hG, hgt⟩ := exists_atKey_append (List.Pairwise.sublist (List.drop_sublist _ z) hs) (lowerBound_drop_ge hs c)
  exact ⟨z.take (lowerBound z c), ex, G, by rw [← hG, List.take_append_drop], lowerBound_take_lt z c, hgt⟩

/-- the removal test and the `a_pos` bookkeeping around it: whether the element just written is dropped again
    (found by a bisect for its coordinate, `a_pos` left where it is) or kept (`a_pos` moved past it), the loop
    goes on just behind what `popKeep` leaves -/
theorem popLoop_removal {γ : Type} (F : Fib κ π → Nat → γ) (P G : Fib κ π) (new : Bool) (c : κ) (nv : π)
    (hP : ∀ x ∈ P, x.1 < c) (hG : ∀ x ∈ G, c < x.1) :
    (if rm new nv = true then F ((P ++ (c, nv) :: G).eraseIdx (lowerBound (P ++ (c, nv) :: G) c)) P.length
      else F (P ++ (c, nv) :: G) (P.length + 1)) =
    F ((P ++ popKeep rm new c nv) ++ G) (P ++ popKeep rm new c nv).length := by
  have hlb : lowerBound (P ++ (c, nv) :: G) c = P.length :=
    lowerBound_len_of_split hP (fun x hx => by
      rcases List.mem_cons.1 hx with rfl | hx
      · exact irrefl c
      · exact lt_asymm' (hG x hx))
  unfold popKeep
  by_cases hr : rm new nv = true
  · rw [if_pos hr, if_pos hr, hlb, List.eraseIdx_append_of_length_le (Nat.le_refl _), Nat.sub_self,
      List.eraseIdx_cons_zero, List.append_nil]
  · rw [if_neg hr, if_neg hr, List.append_assoc, List.length_append]; rfl

/-- **one iteration**: with `P` the elements below the offered coordinate and `G` those above it, the loop
    yields the element found at the coordinate (the default if there is none), and goes on behind what it leaves -/
theorem popLoop_cons (P G : Fib κ π) (ex : Option π) (apos : Nat) (bc : κ) (bp : β) (rest : Fib κ β)
    (hP : ∀ x ∈ P, x.1 < bc) (hG : ∀ x ∈ G, bc < x.1) (hapos : apos ≤ P.length) :
    popLoop mk rm body (P ++ (atKey bc ex ++ G)) apos ((bc, bp) :: rest) =
      Prod.map id ((bc, ex.getD mk, bp) :: ·)
        (popLoop mk rm body ((P ++ popKeep rm ex.isNone bc (body bc (ex.getD mk) bp)) ++ G)
          (P ++ popKeep rm ex.isNone bc (body bc (ex.getD mk) bp)).length rest) := by
  -- the search lands behind `P`: nothing at `bc` or above it is below `bc`
  have hlb : lowerBound (P ++ (atKey bc ex ++ G)) bc = P.length :=
    lowerBound_len_of_split hP (fun x hx => (List.mem_append.1 hx).elim
      (fun h => by cases ex with
        | none => cases h
        | some sp => rw [List.mem_singleton.1 h]; exact irrefl bc)
      (fun h => lt_asymm' (hG x h)))
  have hsearch := popSearch_eq (P ++ (atKey bc ex ++ G)) (hlb ▸ hapos)
  rw [hlb] at hsearch
  refine Eq.trans ?_ (popLoop_removal rm
    (fun z a => Prod.map id ((bc, ex.getD mk, bp) :: ·) (popLoop mk rm body z a rest)) P G ex.isNone bc _ hP hG)
  rw [popLoop]
  simp only [hsearch, List.getElem?_append_right (Nat.le_refl _), Nat.sub_self]
  cases ex with
  | some sp =>
    show (if _ then _ else _) = _
    simp only [Prod.map, id_eq, atKey, Option.map_some, Option.toList_some, List.cons_append, List.nil_append,
      List.getElem?_cons_zero, if_true, Option.isNone_some, Option.getD_some, Bool.false_eq_true, if_false,
      List.set_append_right _ _ (Nat.le_refl _), Nat.sub_self, List.set_cons_zero]
  | none =>
    have hne : ∀ e ∈ G, ¬ e.1 = bc := fun e he h => lt_ne (hG e he) h.symm
    cases G with
    | nil =>
      simp only [Prod.map, id_eq, atKey, Option.map_none, Option.toList_none, List.nil_append, List.getElem?_nil, Option.isNone_none,
        Option.getD_none, if_true, List.take_left, List.drop_left]
    | cons e G' =>
      simp only [Prod.map, id_eq, atKey, Option.map_none, Option.toList_none, List.nil_append, List.getElem?_cons_zero,
        if_neg (hne e (List.mem_cons_self ..)), Option.isNone_none, Option.getD_none, if_true, List.take_left,
        List.drop_left]

theorem hasKey_popKeep {new : Bool} {c c' : κ} {nv : π} (h : HasKey (popKeep rm new c nv) c') : c = c' := by
  unfold popKeep at h
  by_cases hr : rm new nv = true
  · simp only [hr, if_true] at h; exact absurd h (not_hasKey_nil _)
  · simp only [hr, Bool.false_eq_true, if_false] at h
    obtain ⟨x, hx, rfl⟩ := h
    rw [List.mem_singleton.1 hx]

theorem sorted_popKeep_append {new : Bool} {c : κ} {nv : π} {X : Fib κ π} (hX : Sorted X)
    (h : ∀ c', HasKey X c' → c < c') : Sorted (popKeep rm new c nv ++ X) := by
  unfold popKeep
  by_cases hr : rm new nv = true
  · simpa [hr] using hX
  · simp only [hr, Bool.false_eq_true, if_false, List.cons_append, List.nil_append]
    exact sorted_cons_of_keys hX h

/-- what `popKeep` leaves fits between a sorted part below its coordinate and a sorted part above it -/
theorem sorted_around_popKeep {new : Bool} {c : κ} {nv : π} {P X : Fib κ π} (hP : Sorted P) (hX : Sorted X)
    (hlt : ∀ x ∈ P, x.1 < c) (hgt : ∀ c', HasKey X c' → c < c') : Sorted (P ++ (popKeep rm new c nv ++ X)) :=
  sorted_append_iff.2 ⟨hP, sorted_popKeep_append rm hX hgt, fun x hx y hy =>
    (List.mem_append.1 hy).elim (fun h => hasKey_popKeep rm ⟨y, h, rfl⟩ ▸ hlt x hx)
      (fun h => trans (hlt x hx) (hgt y.1 ⟨y, h, rfl⟩))⟩

/-- what the loop yields, read off a destination split at the first offered coordinate -/
theorem popYields_split {A G : Fib κ π} (ex : Option π) {bc : κ} {bp : β} {rest : Fib κ β}
    (hA : ∀ x ∈ A, x.1 < bc) (hG : ∀ y ∈ G, bc < y.1) (hrest : ∀ y ∈ rest, bc < y.1) :
    popYields mk (A ++ (atKey bc ex ++ G)) ((bc, bp) :: rest) = (bc, ex.getD mk, bp) :: popYields mk G rest := by
  have hbc : lookup (A ++ (atKey bc ex ++ G)) bc = ex := by
    rw [lookup_append_or, lookup_eq_none_of_all_lt hA (Or.inl rfl)]; exact lookup_atKey_append ex hG
  simp only [popYields, List.map_cons, hbc]
  refine congrArg _ (List.map_congr_left (fun e he => ?_))
  rw [lookup_append_or, lookup_eq_none_of_all_lt hA (Or.inr (hrest e he)),
    lookup_atKey_append_ne ex G (lt_ne (hrest e he))]; rfl

/-- **the loop invariant**: with the first `pre.length` elements all below every remaining
    source coordinate, the loop as coded rewrites the suffix exactly as the declarative merge -/
theorem popLoop_inv : ∀ (b : Fib κ β) (pre suf : Fib κ π),
    Sorted (pre ++ suf) → Sorted b → (∀ x ∈ pre, ∀ y ∈ b, x.1 < y.1) →
    popLoop mk rm body (pre ++ suf) pre.length b =
      (pre ++ popSpec mk rm body suf b, popYields mk suf b) := by
  intro b
  induction b with
  | nil => intro pre suf _ _ _; rw [popLoop_nil, popSpec_nil_right]; rfl
  | cons e rest ih =>
    obtain ⟨bc, bp⟩ := e
    intro pre suf hs hb hlt
    have hpre : ∀ x ∈ pre, x.1 < bc := fun x hx => hlt x hx (bc, bp) (List.mem_cons_self ..)
    have hrest : ∀ y ∈ rest, bc < y.1 := fun y hy => hb.head_lt y hy
    -- the suffix: `A` below `bc`, then what is stored at `bc`, then `G` above it
    obtain ⟨A, ex, G, rfl, hA, hG⟩ := exists_split_at (sorted_append_iff.1 hs).2.1 bc
    have hP : ∀ x ∈ pre ++ A, x.1 < bc := fun x hx => (List.mem_append.1 hx).elim (hpre x) (hA x)
    rw [← List.append_assoc] at hs ⊢
    rw [popLoop_cons mk rm body (pre ++ A) G ex pre.length bc bp rest hP hG
      (by rw [List.length_append]; exact Nat.le_add_right _ _)]
    -- behind `pre ++ A` and the element kept (if any) the invariant holds again
    generalize hK : popKeep rm ex.isNone bc (body bc (ex.getD mk) bp) = K
    have hKc : ∀ x ∈ K, x.1 = bc := fun x hx => (hasKey_popKeep rm ⟨x, hK ▸ hx, rfl⟩).symm
    have hPK : ∀ x ∈ pre ++ A ++ K, x.1 < bc ∨ x.1 = bc := fun x hx =>
      (List.mem_append.1 hx).elim (fun h => Or.inl (hP x h)) (fun h => Or.inr (hKc x h))
    have hs' : Sorted (pre ++ A ++ K ++ G) := by
      obtain ⟨hsP, hsS, _⟩ := sorted_append_iff.1 hs
      rw [List.append_assoc, ← hK]
      exact sorted_around_popKeep rm hsP (sorted_append_iff.1 hsS).2.1 hP (fun _ ⟨y, hy, he⟩ => he ▸ hG y hy)
    have ih := ih (pre ++ A ++ K) G hs' hb.tail
      (fun x hx y hy => (hPK x hx).elim (fun h => trans h (hrest y hy)) (fun h => h ▸ hrest y hy))
    simp only [ih]
    rw [popSpec_skip mk rm body A _ bc bp rest hA, popSpec_atKey mk rm body ex G bc bp rest hG, hK]
    rw [popYields_split mk ex hA hG hrest]
    simp only [List.append_assoc, Prod.map_apply, id_eq]
end
end Ft

namespace Ft
open StrictTotal
section
variable {κ π β : Type} [LT κ] [DecidableRel (α := κ) (· < ·)] [DecidableEq κ] [StrictTotal κ]
variable (mk : π) (rm : Bool → π → Bool) (body : κ → π → β → π)

theorem not_hasKey_of_lt {f : Fib κ π} {c : κ} (h : ∀ x ∈ f, c < x.1) : ¬ HasKey f c := by
  rintro ⟨x, hx, rfl⟩; exact irrefl _ (h x hx)

theorem lookup_popKeep_append_ne {new : Bool} {c c' : κ} {nv : π} {X : Fib κ π} (h : c ≠ c') :
    lookup (popKeep rm new c nv ++ X) c' = lookup X c' := by
  unfold popKeep
  by_cases hr : rm new nv = true
  · simp [hr]
  · simp only [hr, Bool.false_eq_true, if_false, List.cons_append, List.nil_append]
    exact lookup_cons_ne h

theorem lookup_popKeep_append_eq {new : Bool} {c : κ} {nv : π} {X : Fib κ π} (h : ¬ HasKey X c) :
    lookup (popKeep rm new c nv ++ X) c = if rm new nv then none else some nv := by
  unfold popKeep
  by_cases hr : rm new nv = true
  · simp only [hr, if_true, List.nil_append]; exact lookup_none_of_not_hasKey h
  · simp only [hr, Bool.false_eq_true, if_false, List.cons_append, List.nil_append, lookup_cons, if_true]

/-- a fiber with the lookups populate is expected to leave has no coordinate from elsewhere -/
theorem hasKey_of_popExpect {P z : Fib κ π} {b : Fib κ β} (h : ∀ c, lookup P c = popExpect mk rm body z b c)
    {c : κ} (hk : HasKey P c) : HasKey z c ∨ HasKey b c := by
  have hs := (hasKey_iff_lookup P c).1 hk
  rw [h c] at hs
  unfold popExpect at hs
  cases hb : lookup b c with
  | some _ => exact Or.inr ((hasKey_iff_lookup b c).2 (by rw [hb]; rfl))
  | none => rw [hb] at hs; exact Or.inl ((hasKey_iff_lookup z c).2 hs)

/-- **structure of the result**: the destination stays sorted, and holds coordinate by coordinate what
    `popExpect` says -/
theorem popSpec_spec : ∀ (b : Fib κ β) (z : Fib κ π), Sorted z → Sorted b →
    Sorted (popSpec mk rm body z b) ∧ ∀ c, lookup (popSpec mk rm body z b) c = popExpect mk rm body z b c := by
  intro b
  induction b with
  | nil => intro z hz _; rw [popSpec_nil_right]; exact ⟨hz, fun _ => rfl⟩
  | cons e rb ih =>
    obtain ⟨bc, bp⟩ := e
    intro z hz hb
    obtain ⟨A, ex, G, rfl, hA, hG⟩ := exists_split_at hz bc
    obtain ⟨hsA, hsM, _⟩ := sorted_append_iff.1 hz
    obtain ⟨ihs, ihl⟩ := ih G (sorted_append_iff.1 hsM).2.1 hb.tail
    have hrb : ∀ y ∈ rb, bc < y.1 := hb.head_lt
    -- what the merge leaves behind `bc` lies above it
    have hP : ∀ c', HasKey (popSpec mk rm body G rb) c' → bc < c' := fun c' hk =>
      (hasKey_of_popExpect mk rm body ihl hk).elim (fun ⟨x, hx, he⟩ => he ▸ hG x hx)
        (fun ⟨y, hy, he⟩ => he ▸ hrb y hy)
    have hAne : ∀ c, bc = c ∨ bc < c → lookup A c = none := fun c => lookup_eq_none_of_all_lt hA
    have hz' : ∀ c, bc = c ∨ bc < c → lookup (A ++ (atKey bc ex ++ G)) c = lookup (atKey bc ex ++ G) c :=
      fun c hc => by rw [lookup_append_or, hAne c hc]; rfl
    rw [popSpec_skip mk rm body A _ bc bp rb hA, popSpec_atKey mk rm body ex G bc bp rb hG]
    refine ⟨sorted_around_popKeep rm hsA ihs hA hP, fun c => ?_⟩
    rw [lookup_append_or]
    unfold popExpect
    by_cases hc : bc = c
    · subst hc
      rw [hAne bc (Or.inl rfl), lookup_cons_self, Option.none_or,
        lookup_popKeep_append_eq rm (fun hk => irrefl _ (hP _ hk))]
      simp only [popAt, hz' bc (Or.inl rfl), lookup_atKey_append ex hG]
    · rw [lookup_popKeep_append_ne rm hc, ihl c, lookup_cons_ne hc]
      unfold popExpect
      have hGc := lookup_atKey_append_ne ex G hc
      cases hr : lookup rb c with
      | none => simp only; rw [lookup_append_or, hGc]
      | some bp' =>
        have hlt : bc < c := hrb _ (mem_of_lookup_eq_some hr)
        simp only [popAt, hz' c (Or.inr hlt), hGc, hAne c (Or.inr hlt), Option.none_or]

end
end Ft
