/-
  Point access (C03): position search against lookup by coordinate on sorted fibers; reads (`val`) and
  well-formedness after `refAt` / `updateAt` / `updateUnder`.
-/
import FtProofs.Lemmas.EqLemmas
import FtModel.Point
set_option linter.unusedSectionVars false
namespace Ft
open StrictTotal

section
variable {κ ν π : Type} [LT κ] [DecidableRel (α := κ) (· < ·)] [DecidableEq κ] [StrictTotal κ]

theorem lowerBound_nil (c : κ) : lowerBound ([] : Fib κ π) c = 0 := rfl

/-- on a sorted fiber, position lookup (`_coord2pos` + `_coordExists`) is lookup by coordinate -/
theorem posLookup_eq_lookup {f : Fib κ π} (hs : Sorted f) (c : κ) : posLookup f c = lookup f c := by
  induction f with
  | nil => rfl
  | cons e r ih =>
    unfold posLookup
    rw [lowerBound_cons]
    by_cases h : e.1 < c
    · have hne : e.1 ≠ c := lt_ne h
      simp only [h, if_true, List.getElem?_cons_succ]
      rw [lookup_cons_ne hne, ← ih hs.tail]; rfl
    · simp only [h, if_false, List.getElem?_cons_zero]
      by_cases he : e.1 = c
      · simp [he, lookup_cons]
      · simp only [he, if_false]
        rw [lookup_cons_ne he]
        symm
        apply lookup_eq_none_of_lt
        intro x hx
        exact trans (gt_of_not_lt_ne he h) (hs.head_lt x hx)

theorem getPosition_eq {f : Fib κ π} (c : κ) (i : Nat) (h : getPosition f c = some i) :
    i = lowerBound f c ∧ ∃ e, f[i]? = some e ∧ e.1 = c := by
  unfold getPosition at h
  cases hh : f[lowerBound f c]? with
  | none => rw [hh] at h; cases h
  | some e =>
    rw [hh] at h
    by_cases he : e.1 = c
    · simp only [he, if_true, Option.some.injEq] at h
      subst h; exact ⟨rfl, e, hh, he⟩
    · simp [he] at h

theorem coord2posFrom_of_le (f : Fib κ π) {sp : Nat} {c : κ} (h : sp ≤ lowerBound f c) :
    coord2posFrom f sp c = lowerBound f c := by
  unfold coord2posFrom
  induction f generalizing sp with
  | nil => rw [lowerBound_nil] at h; rw [Nat.le_zero.1 h]; rfl
  | cons e r ih =>
    cases sp with
    | zero => simp
    | succ n =>
      rw [lowerBound_cons] at h ⊢
      by_cases hlt : e.1 < c
      · rw [if_pos hlt] at h ⊢
        rw [List.drop_succ_cons, ← ih (Nat.le_of_succ_le_succ h)]; omega
      · rw [if_neg hlt] at h; cases h

theorem le_lowerBound {f : Fib κ π} {n : Nat} {c : κ} (hn : n ≤ f.length) (h : ∀ x ∈ f.take n, x.1 < c) :
    n ≤ lowerBound f c := by
  unfold lowerBound
  rw [← List.take_append_drop n f, List.takeWhile_append_of_pos (fun x hx => decide_eq_true (h x hx)),
    List.length_append, List.length_take]
  omega

theorem lookup_insertAt {f : Fib κ π} {c : κ} (hn : lookup f c = none) (p : π) (c' : κ) :
    lookup (insertAt f c p) c' = if c' = c then some p else lookup f c' := by
  have key := lookup_append_or (f.take (lowerBound f c)) (f.drop (lowerBound f c)) c'
  rw [List.take_append_drop] at key
  unfold insertAt
  rw [lookup_append_or, lookup_cons]
  by_cases h : c' = c
  · subst h
    rw [hn] at key
    rw [if_pos rfl, if_pos rfl, (Option.or_eq_none_iff.1 key.symm).1]; rfl
  · rw [if_neg (fun e => h e.symm), if_neg h, key]

theorem ne_of_lookup_eq_none {f : Fib κ π} {c : κ} (h : lookup f c = none) : ∀ x ∈ f, x.1 ≠ c := by
  intro x hx he
  have := (hasKey_iff_lookup f c).1 ⟨x, hx, he⟩
  rw [h] at this; cases this

theorem insertAt_sorted {f : Fib κ π} (hs : Sorted f) {c : κ} (hn : lookup f c = none) (p : π) :
    Sorted (insertAt f c p) := by
  unfold insertAt
  have hne := ne_of_lookup_eq_none hn
  have hgt : ∀ y ∈ f.drop (lowerBound f c), c < y.1 := by
    intro y hy
    exact gt_of_not_lt_ne (hne y (List.mem_of_mem_drop hy)) (lowerBound_drop_ge hs c y hy)
  refine sorted_append_iff.2 ⟨List.Pairwise.sublist (List.take_sublist _ f) hs,
    sorted_cons.2 ⟨hgt, List.Pairwise.sublist (List.drop_sublist _ f) hs⟩, fun x hx y hy => ?_⟩
  have hxc := lowerBound_take_lt f c x hx
  rcases List.mem_cons.1 hy with rfl | hy
  · exact hxc
  · exact trans hxc (hgt y hy)

theorem mem_insertAt {f : Fib κ π} {c : κ} {p : π} {x : κ × π} :
    x ∈ insertAt f c p ↔ x = (c, p) ∨ x ∈ f := by
  unfold insertAt
  rw [List.mem_append, List.mem_cons]
  constructor
  · rintro (h | h | h)
    · exact Or.inr (List.mem_of_mem_take h)
    · exact Or.inl h
    · exact Or.inr (List.mem_of_mem_drop h)
  · rintro (h | h)
    · exact Or.inr (Or.inl h)
    · rw [← List.take_append_drop (lowerBound f c) f, List.mem_append] at h
      rcases h with h | h
      · exact Or.inl h
      · exact Or.inr (Or.inr h)

end
end Ft

namespace Ft
open StrictTotal
section
variable {κ ν : Type} [LT κ] [DecidableRel (α := κ) (· < ·)] [DecidableEq κ] [StrictTotal κ]

/-- the path `p` (a full point) is stored in the tree -/
def PathExists : (d : Nat) → Tree κ ν d → List κ → Prop
  | 0,     _, _       => True
  | _ + 1, _, []      => False
  | d + 1, f, c :: cs => ∃ s, lookup (show List (κ × Tree κ ν d) from f) c = some s ∧ PathExists d s cs

theorem wf_defaultTree (dflt : ν) : ∀ d, WF d (defaultTree (κ := κ) dflt d)
  | 0 => trivial
  | _ + 1 => ⟨List.Pairwise.nil, fun _ h => by cases h⟩

theorem val_defaultTree (dflt : ν) : ∀ d q, val dflt d (defaultTree (κ := κ) dflt d) q = dflt
  | 0, _ => rfl
  | _ + 1, [] => rfl
  | _ + 1, _ :: _ => rfl

theorem val_cons (dflt : ν) (d : Nat) (f : List (κ × Tree κ ν d)) (c : κ) (q : List κ) :
    val dflt (d + 1) f (c :: q) = val dflt d ((lookup f c).getD (defaultTree dflt d)) q := by
  simp only [val]
  cases lookup f c with
  | none => exact (val_defaultTree dflt d q).symm
  | some s => rfl

theorem wf_getD_lookup (dflt : ν) {d : Nat} {f : List (κ × Tree κ ν d)} (h : WF (d + 1) f) (c : κ) :
    WF d ((lookup f c).getD (defaultTree dflt d)) := by
  cases hl : lookup f c with
  | none => exact wf_defaultTree dflt d
  | some s => exact h.sub _ (mem_of_lookup_eq_some hl)

theorem wf_map_key {d : Nat} {f : List (κ × Tree κ ν d)} (h : WF (d + 1) f) (c : κ) (g : Tree κ ν d → Tree κ ν d)
    (hg : ∀ s, lookup f c = some s → WF d (g s)) :
    WF (d + 1) (show Tree κ ν (d + 1) from f.map (fun e => if e.1 = c then (e.1, g e.2) else e)) := by
  have hkey : ∀ e : κ × Tree κ ν d, (if e.1 = c then (e.1, g e.2) else e).1 = e.1 := fun e => by split <;> rfl
  refine ⟨List.pairwise_map.2 (h.sorted.imp (fun {a b} hab => by rw [hkey a, hkey b]; exact hab)), fun e he => ?_⟩
  obtain ⟨x, hx, rfl⟩ := List.mem_map.1 he
  by_cases hxc : x.1 = c
  · rw [if_pos hxc]; exact hg x.2 (hxc ▸ lookup_of_sorted_mem h.sorted hx)
  · rw [if_neg hxc]; exact h.sub x hx

theorem wf_insertAt {d : Nat} {f : List (κ × Tree κ ν d)} (h : WF (d + 1) f) {c : κ} (hn : lookup f c = none)
    {s : Tree κ ν d} (hs : WF d s) : WF (d + 1) (show Tree κ ν (d + 1) from insertAt f c s) := by
  refine ⟨insertAt_sorted h.sorted hn s, fun e he => ?_⟩
  rcases mem_insertAt.1 he with rfl | he
  · exact hs
  · exact h.sub e he

theorem refAt_cons_some (dflt : ν) {d : Nat} {f : List (κ × Tree κ ν d)} (hs : Sorted f) {c : κ} {s : Tree κ ν d}
    (hl : lookup f c = some s) (cs : List κ) :
    refAt dflt (d + 1) f (c :: cs) = f.map (fun e => if e.1 = c then (e.1, refAt dflt d e.2 cs) else e) := by
  simp only [refAt]
  rw [posLookup_eq_lookup hs, hl]

theorem refAt_cons_none (dflt : ν) {d : Nat} {f : List (κ × Tree κ ν d)} (hs : Sorted f) {c : κ}
    (hl : lookup f c = none) (cs : List κ) :
    refAt dflt (d + 1) f (c :: cs) = insertAt f c (refAt dflt d (defaultTree dflt d) cs) := by
  simp only [refAt]
  rw [posLookup_eq_lookup hs, hl]

theorem lookup_refAt (dflt : ν) {d : Nat} {f : List (κ × Tree κ ν d)} (hs : Sorted f) (c : κ) (cs : List κ) (c' : κ) :
    lookup (refAt dflt (d + 1) f (c :: cs)) c' =
      if c' = c then some (refAt dflt d ((lookup f c).getD (defaultTree dflt d)) cs) else lookup f c' := by
  cases hl : lookup f c with
  | some s => rw [refAt_cons_some dflt hs hl, lookup_map_key f c c' (fun t => refAt dflt d t cs), hl]; rfl
  | none => rw [refAt_cons_none dflt hs hl]; exact lookup_insertAt hl _ c'

theorem refAt_wf (dflt : ν) : ∀ (d : Nat) (t : Tree κ ν d), WF d t → ∀ p, WF d (refAt dflt d t p) := by
  intro d
  induction d with
  | zero => intro _ _ _; trivial
  | succ d ih =>
    intro f h p
    cases p with
    | nil => exact h
    | cons c cs =>
      cases hl : lookup (show List (κ × Tree κ ν d) from f) c with
      | some s =>
        rw [refAt_cons_some dflt h.sorted hl]
        exact wf_map_key h c _ (fun s hs => ih s (h.sub _ (mem_of_lookup_eq_some hs)) cs)
      | none =>
        rw [refAt_cons_none dflt h.sorted hl]
        exact wf_insertAt h hl (ih _ (wf_defaultTree dflt d) cs)

theorem refAt_val (dflt : ν) : ∀ (d : Nat) (t : Tree κ ν d), WF d t → ∀ p q,
    val dflt d (refAt dflt d t p) q = val dflt d t q := by
  intro d
  induction d with
  | zero => intro _ _ _ _; rfl
  | succ d ih =>
    intro f h p q
    cases p with
    | nil => rfl
    | cons c cs =>
      cases q with
      | nil => rfl
      | cons c' qs =>
        rw [val_cons dflt d (refAt dflt (d + 1) f (c :: cs)), val_cons dflt d f, lookup_refAt dflt h.sorted]
        by_cases hc : c' = c
        · subst hc
          rw [if_pos rfl]
          exact ih _ (wf_getD_lookup dflt h c') cs qs
        · rw [if_neg hc]

theorem refAt_path (dflt : ν) : ∀ (d : Nat) (t : Tree κ ν d), WF d t → ∀ p, p.length = d →
    PathExists d (refAt dflt d t p) p := by
  intro d
  induction d with
  | zero => intro _ _ _ _; trivial
  | succ d ih =>
    intro f h p hp
    cases p with
    | nil => cases hp
    | cons c cs =>
      exact ⟨_, by rw [lookup_refAt dflt h.sorted, if_pos rfl],
        ih _ (wf_getD_lookup dflt h c) cs (Nat.succ.inj hp)⟩

theorem updateAt_val (dflt : ν) (g : ν → ν) : ∀ (d : Nat) (t : Tree κ ν d) (p q : List κ),
    PathExists d t p → p.length = d → q.length = d →
    val dflt d (updateAt g d t p) q = if q = p then g (val dflt d t p) else val dflt d t q := by
  intro d
  induction d with
  | zero =>
    intro v p q _ hp hq
    rw [List.length_eq_zero_iff.1 hp, List.length_eq_zero_iff.1 hq]
    exact (if_pos rfl).symm
  | succ d ih =>
    intro f p q hpe hp hq
    cases p with
    | nil => cases hp
    | cons c cs =>
      cases q with
      | nil => cases hq
      | cons c' qs =>
        obtain ⟨s, hl, hs⟩ := hpe
        show val dflt (d + 1) (List.map (fun e => if e.1 = c then (e.1, updateAt g d e.2 cs) else e)
          (show List (κ × Tree κ ν d) from f)) (c' :: qs) = _
        rw [val_cons, val_cons dflt d f c' qs, val_cons dflt d f c cs,
          lookup_map_key _ c c' (fun t => updateAt g d t cs)]
        by_cases hc : c' = c
        · subst hc
          rw [if_pos rfl, hl]
          simp only [List.cons.injEq, true_and]
          exact ih s cs qs hs (Nat.succ.inj hp) (Nat.succ.inj hq)
        · rw [if_neg hc, if_neg (fun h => hc (List.cons.inj h).1)]

/-- `g` leaves the default alone, as `x ↦ x * k` does for 0 and as the library's walk does for any default by
    skipping empty elements -/
theorem updateUnder_val (dflt : ν) (g : ν → ν) (hg : g dflt = dflt) :
    ∀ (d : Nat) (t : Tree κ ν d) (p q : List κ), p.length ≤ d →
    val dflt d (updateUnder g d t p) q = if p <+: q then g (val dflt d t q) else val dflt d t q := by
  intro d
  induction d with
  | zero =>
    intro v p q hp
    rw [List.length_eq_zero_iff.1 (Nat.le_zero.1 hp), if_pos List.nil_prefix]; rfl
  | succ d ih =>
    intro f p q hp
    cases q with
    | nil =>
      show dflt = if p <+: [] then g dflt else dflt
      rw [hg]; exact (ite_self _).symm
    | cons c' qs =>
      -- the default sub-tree reads the same before and after, as `g` leaves the default alone
      have hdef : ∀ cs : List κ, val dflt d (defaultTree dflt d) qs =
          if cs <+: qs then g (val dflt d (defaultTree dflt d) qs) else val dflt d (defaultTree dflt d) qs := by
        intro cs; rw [val_defaultTree, hg]; exact (ite_self _).symm
      cases p with
      | nil =>
        show val dflt (d + 1) (List.map (fun e => (e.1, updateUnder g d e.2 []))
          (show List (κ × Tree κ ν d) from f)) (c' :: qs) = _
        rw [val_cons, val_cons dflt d f c' qs, lookup_map_payload _ (fun _ t => updateUnder g d t []) c',
          if_pos List.nil_prefix]
        cases lookup (show List (κ × Tree κ ν d) from f) c' with
        | none => exact (hdef []).trans (if_pos List.nil_prefix)
        | some s => exact (ih s [] qs (Nat.zero_le _)).trans (if_pos List.nil_prefix)
      | cons c cs =>
        show val dflt (d + 1) (List.map (fun e => if e.1 = c then (e.1, updateUnder g d e.2 cs) else e)
          (show List (κ × Tree κ ν d) from f)) (c' :: qs) = _
        rw [val_cons, val_cons dflt d f c' qs, lookup_map_key _ c c' (fun t => updateUnder g d t cs)]
        simp only [List.cons_prefix_cons]
        by_cases hc : c' = c
        · subst hc
          rw [if_pos rfl]
          simp only [true_and]
          cases lookup (show List (κ × Tree κ ν d) from f) c' with
          | none => exact hdef cs
          | some s => exact ih s cs qs (Nat.le_of_succ_le_succ hp)
        · rw [if_neg hc, if_neg (fun h => hc h.1.symm)]

theorem updateUnder_wf (g : ν → ν) : ∀ (d : Nat) (t : Tree κ ν d), WF d t → ∀ p, WF d (updateUnder g d t p) := by
  intro d
  induction d with
  | zero => intro _ _ _; trivial
  | succ d ih =>
    intro f h p
    cases p with
    | nil =>
      refine ⟨sorted_map_key _ _ h.sorted, fun e he => ?_⟩
      obtain ⟨x, hx, rfl⟩ := List.mem_map.1 he
      exact ih x.2 (h.sub x hx) []
    | cons c cs => exact wf_map_key h c _ (fun s hs => ih s (h.sub _ (mem_of_lookup_eq_some hs)) cs)

theorem updateAt_wf (g : ν → ν) : ∀ (d : Nat) (t : Tree κ ν d), WF d t → ∀ p, WF d (updateAt g d t p) := by
  intro d
  induction d with
  | zero => intro _ _ _; trivial
  | succ d ih =>
    intro t h p
    cases p with
    | nil => exact h
    | cons c cs => exact wf_map_key h c _ (fun s hs => ih s (h.sub _ (mem_of_lookup_eq_some hs)) cs)

end
end Ft

namespace Ft
open StrictTotal
section
variable {κ ν : Type} [LT κ] [DecidableRel (α := κ) (· < ·)] [DecidableEq κ] [StrictTotal κ] [DecidableEq ν]

theorem clookup_append (l₁ l₂ : List (List κ × ν)) (p : List κ) :
    clookup (l₁ ++ l₂) p = (clookup l₁ p).orElse (fun _ => clookup l₂ p) := by
  unfold clookup
  rw [List.find?_append]
  cases List.find? (fun pv => decide (pv.1 = p)) l₁ <;> simp

theorem clookup_pre (e c : κ) (X : List (List κ × ν)) (cs : List κ) :
    clookup (pre e X) (c :: cs) = if e = c then clookup X cs else none := by
  unfold clookup pre
  rw [List.find?_map]
  -- `e :: p = c :: cs` holds iff `e = c` and `p = cs`
  have hp : ((fun pv : List κ × ν => decide (pv.1 = c :: cs)) ∘ fun pv : List κ × ν => (e :: pv.1, pv.2)) =
      fun pv : List κ × ν => decide (e = c) && decide (pv.1 = cs) := funext fun pv => by simp [List.cons.injEq]
  rw [hp]
  by_cases h : e = c
  · simp only [h, decide_true, Bool.true_and, if_true]
    cases List.find? (fun pv => decide (pv.1 = cs)) X <;> rfl
  · simp only [h, decide_false, Bool.false_and, if_false, List.find?_eq_none.2 (fun _ _ => Bool.false_ne_true),
      Option.map_none]

theorem clookup_content_none (dflt : ν) (d : Nat) (r : List (κ × Tree κ ν d)) (c : κ) (cs : List κ)
    (h : ∀ x ∈ r, x.1 ≠ c) : clookup (content dflt (d + 1) (show Tree κ ν (d + 1) from r)) (c :: cs) = none := by
  induction r with
  | nil => rfl
  | cons e r ih =>
    rw [content_cons, clookup_append, clookup_pre]
    simp only [h e (List.mem_cons_self ..), if_false]
    exact ih (fun x hx => h x (List.mem_cons_of_mem _ hx))

theorem clookup_content_cons (dflt : ν) {d : Nat} {f : List (κ × Tree κ ν d)} (hs : Sorted f) (c : κ) (cs : List κ) :
    clookup (content dflt (d + 1) (show Tree κ ν (d + 1) from f)) (c :: cs) =
      (lookup f c).bind (fun s => clookup (content dflt d s) cs) := by
  induction f with
  | nil => rfl
  | cons e r ih =>
    rw [content_cons, clookup_append, clookup_pre, lookup_cons]
    by_cases he : e.1 = c
    · rw [if_pos he, if_pos he, clookup_content_none dflt d r c cs
        (fun x hx hxc => lt_ne (hs.head_lt x hx) (he.trans hxc.symm)), Option.bind_some]
      cases clookup (content dflt d e.2) cs <;> rfl
    · rw [if_neg he, if_neg he]
      exact ih hs.tail

theorem val_eq_content (dflt : ν) : ∀ (d : Nat) (t : Tree κ ν d), WF d t → ∀ p, p.length = d →
    val dflt d t p = (clookup (content dflt d t) p).getD dflt := by
  intro d
  induction d with
  | zero =>
    intro v _ p hp
    rw [List.length_eq_zero_iff.1 hp]
    show (show ν from v) = (clookup (if (show ν from v) = dflt then [] else [([], (show ν from v))]) []).getD dflt
    by_cases h : (show ν from v) = dflt
    · rw [if_pos h]; exact h
    · rw [if_neg h]; rfl
  | succ d ih =>
    intro f h p hp
    cases p with
    | nil => cases hp
    | cons c cs =>
      rw [clookup_content_cons dflt h.sorted]
      simp only [val]
      cases hl : lookup (show List (κ × Tree κ ν d) from f) c with
      | none => rfl
      | some s => exact ih s (h.sub _ (mem_of_lookup_eq_some hl)) cs (Nat.succ.inj hp)

end
end Ft
