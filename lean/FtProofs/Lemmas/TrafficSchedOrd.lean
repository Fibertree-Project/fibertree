/-
  Helper lemmas for C17 (cache): the consumption order of `_bufferTraffic` (minimum of the stamps
  padded with -1, then the binding position) is sorted the way `ListElem` compares, provided every
  binding's trace is stamp-sorted; ties can only occur inside one trace.
-/
import FtProofs.Lemmas.TrafficSched
import FtProofs.Lemmas.TrafficCacheOrd
namespace Ft
namespace Traffic

theorem padKey_cons (L : Nat) (x : Nat) (xs : List Nat) (i : Nat) :
    padKey (L + 1) (x :: xs) i = Int.ofNat x :: padKey L xs i := by
  simp [padKey]

theorem padKey_nil_succ (L : Nat) (i : Nat) : padKey (L + 1) [] i = (-1) :: padKey L [] i := by
  simp [padKey, List.replicate_succ]

/-- a strictly smaller stamp gives a strictly smaller padded key (whatever the positions) -/
theorem padKey_lt_of_lexLt : ∀ (L : Nat) (s1 s2 : List Nat) (i j : Nat), s1.length ≤ L → s2.length ≤ L →
    lexLt s1 s2 = true → lexLtI (padKey L s1 i) (padKey L s2 j) = true
  | _, [], [], _, _, _, _, h => by simp [lexLt] at h
  | 0, [], _ :: _, _, _, _, h2, _ => by simp at h2
  | L + 1, [], y :: ys, i, j, _, _, _ => by
    rw [padKey_nil_succ, padKey_cons]
    simp only [lexLtI]
    have : (-1 : Int) < Int.ofNat y := by
      have : (0 : Int) ≤ Int.ofNat y := Int.natCast_nonneg y
      omega
    rw [if_pos this]
  | _, _ :: _, [], _, _, _, _, h => by simp [lexLt] at h
  | 0, _ :: _, _ :: _, _, _, h1, _, _ => by simp at h1
  | L + 1, x :: xs, y :: ys, i, j, h1, h2, h => by
    rw [padKey_cons, padKey_cons]
    simp only [lexLt] at h
    simp only [lexLtI]
    by_cases hxy : x < y
    · have : Int.ofNat x < Int.ofNat y := Int.ofNat_lt.2 hxy
      rw [if_pos this]
    · simp only [hxy, if_false] at h
      by_cases hyx : y < x
      · simp [hyx] at h
      · simp only [hyx, if_false] at h
        have : x = y := by omega
        subst this
        rw [if_neg (Int.lt_irrefl _), if_neg (Int.lt_irrefl _)]
        exact padKey_lt_of_lexLt L xs ys i j (by simpa using h1) (by simpa using h2) h

/-- equal stamps: the binding position decides -/
theorem padKey_lt_of_pos (L : Nat) (s : List Nat) (i j : Nat) (h : i < j) :
    lexLtI (padKey L s i) (padKey L s j) = true := by
  unfold padKey
  generalize s.map Int.ofNat ++ List.replicate (L - s.length) (-1) = pre
  induction pre with
  | nil =>
    have : Int.ofNat i < Int.ofNat j := Int.ofNat_lt.2 h
    simp only [List.nil_append, lexLtI]
    rw [if_pos this]
  | cons z zs ih =>
    simp only [List.cons_append, lexLtI]
    rw [if_neg (Int.lt_irrefl _), if_neg (Int.lt_irrefl _)]
    exact ih

theorem padKey_lt_of_LElem {L : Nat} {s1 s2 : List Nat} {p1 p2 : List Nat} {i j : Nat}
    (h1 : s1.length ≤ L) (h2 : s2.length ≤ L)
    (h : LElem.lt ⟨s1, p1, i⟩ ⟨s2, p2, j⟩ = true) : lexLtI (padKey L s1 i) (padKey L s2 j) = true := by
  unfold LElem.lt at h
  by_cases hs : s1 = s2
  · subst hs
    simp only [ne_eq, not_true_eq_false, if_false, decide_eq_true_eq] at h
    exact padKey_lt_of_pos L s1 i j h
  · simp only [ne_eq, hs, not_false_eq_true, if_true] at h
    exact padKey_lt_of_lexLt L s1 s2 i j h1 h2 h

theorem lexLt_of_padKey_lt {L : Nat} {s1 s2 : List Nat} {i : Nat} (h1 : s1.length ≤ L) (h2 : s2.length ≤ L)
    (h : lexLtI (padKey L s1 i) (padKey L s2 i) = true) : lexLt s1 s2 = true := by
  cases h12 : lexLt s1 s2
  · exfalso
    cases h21 : lexLt s2 s1
    · have := lexLt_total h12 h21
      subst this
      rw [lexLtI_irrefl] at h; cases h
    · have := padKey_lt_of_lexLt L s2 s1 i i h2 h1 h21
      have := lexLtI_trans h this
      rw [lexLtI_irrefl] at this; cases this
  · rfl

/-- key of the pending row of binding `j` -/
def headKey (L : Nat) (ts : List (List Acc)) (j : Nat) : Option (List Int) :=
  match ts[j]? with
  | some (a :: _) => some (padKey L a.stamp j)
  | _ => none

/-- no two different lines at one stamp inside a trace -/
def traceTieFreeB : List Acc → Bool
  | [] => true
  | a :: rest =>
    rest.all (fun b => !(decide (b.stamp = a.stamp)) || decide (b.point = a.point)) && traceTieFreeB rest

/-- a well-formed, tie-free trace of a binding at loop depth ≤ L -/
def TraceOk (L : Nat) (t : List Acc) : Prop :=
  stampsSortedB (t.map (·.stamp)) = true ∧ traceTieFreeB t = true ∧ ∀ a ∈ t, a.stamp.length ≤ L

theorem TraceOk.tail {L : Nat} {a : Acc} {r : List Acc} (h : TraceOk L (a :: r)) : TraceOk L r := by
  obtain ⟨h1, h2, h3⟩ := h
  refine ⟨stampsSorted_tail h1, ?_, fun x hx => h3 x (List.mem_cons_of_mem _ hx)⟩
  simp only [traceTieFreeB, Bool.and_eq_true] at h2
  exact h2.2

/-- a later row of the trace the row was taken from does not compare below it, and compares equal
    to it only on the same line -/
theorem ord_same_trace {L : Nat} {a : Acc} {r : List Acc} (har : TraceOk L (a :: r)) (i : Nat) {b : Acc}
    (hb : b ∈ r) :
    LElem.lt ⟨b.stamp, b.point, i⟩ ⟨a.stamp, a.point, i⟩ = false ∧
      (b.stamp ≠ a.stamp ∨ b.point = a.point) := by
  obtain ⟨hs, htf, _⟩ := har
  have hle : lexLe a.stamp b.stamp = true :=
    sorted_tail_ge (by simpa using hs) b.stamp (List.mem_map_of_mem hb)
  have hnlt : lexLt b.stamp a.stamp = false := by simpa [lexLe] using hle
  simp only [traceTieFreeB, Bool.and_eq_true, List.all_eq_true] at htf
  have htie := htf.1 b hb
  refine ⟨?_, ?_⟩
  · unfold LElem.lt
    by_cases hst : b.stamp = a.stamp
    · simp [hst]
    · simp [hst, hnlt]
  · simp only [Bool.not_eq_true', Bool.or_eq_true, decide_eq_false_iff_not, decide_eq_true_eq] at htie
    exact htie

/-- a row of another trace does not compare below the row taken: that trace is sorted, and its
    pending row has no smaller padded key -/
theorem ord_other_trace {L : Nat} {a h b : Acc} {r' : List Acc} {i j : Nat}
    (hla : a.stamp.length ≤ L) (hokj : TraceOk L (h :: r')) (hb : b ∈ h :: r')
    (hmin : lexLtI (padKey L h.stamp j) (padKey L a.stamp i) = false) :
    LElem.lt ⟨b.stamp, b.point, j⟩ ⟨a.stamp, a.point, i⟩ = false := by
  obtain ⟨hs, _, hlenj⟩ := hokj
  have hle : lexLe h.stamp b.stamp = true := by
    rcases List.mem_cons.1 hb with e | e
    · rw [e]; exact lexLe_refl _
    · exact sorted_tail_ge (by simpa using hs) b.stamp (List.mem_map_of_mem e)
  cases hlt' : LElem.lt ⟨b.stamp, b.point, j⟩ ⟨a.stamp, a.point, i⟩
  · rfl
  · exfalso
    have h1 := padKey_lt_of_LElem (L := L) (hlenj b hb) hla hlt'
    have h2 := lexLtI_of_lt_of_not_lt h1 hmin
    have h3 := lexLt_of_padKey_lt (hlenj b hb) (hlenj h List.mem_cons_self) h2
    simp only [lexLe, Bool.not_eq_true'] at hle
    rw [hle] at h3; cases h3

theorem scheduleFuel_ord (L : Nat) : ∀ (fuel : Nat) (ts : List (List Acc)), totalLen ts ≤ fuel →
    (∀ t ∈ ts, TraceOk L t) → schedOrdB (scheduleFuel L fuel ts) = true
  | 0, _, _, _ => rfl
  | fuel + 1, ts, hf, hok => by
    rcases scheduleFuel_succ L fuel ts hf with ⟨he, _⟩ | ⟨i, a, r, hi, hf', he, hall⟩
    · rw [he]; rfl
    · have har := hok _ (List.mem_of_getElem? hi)
      rw [he]
      simp only [schedOrdB, Bool.and_eq_true]
      refine ⟨?_, scheduleFuel_ord L fuel _ hf' (forall_mem_set hok har.tail i)⟩
      rw [List.all_eq_true]
      intro y hy
      -- `y` is a pending or later row of its own trace
      have hb : y.2 ∈ (ts.set i r).getD y.1 [] := by
        rw [← scheduleFuel_proj L fuel (ts.set i r) hf' y.1]
        exact mem_proj hy
      simp only [Bool.and_eq_true, Bool.not_eq_true', Bool.or_eq_true, decide_eq_true_eq,
        Bool.and_eq_false_imp, decide_eq_false_iff_not]
      by_cases hji : y.1 = i
      · rw [hji, getD_set_self hi] at hb
        rw [hji]
        obtain ⟨h1, h2⟩ := ord_same_trace har i hb
        exact ⟨h1, h2.imp (fun h e => absurd e h) (fun h => by rw [h])⟩
      · rw [getD_set_ne ts (Ne.symm hji)] at hb
        refine ⟨?_, Or.inl (fun _ => hji)⟩
        cases htj : ts[y.1]? with
        | none => simp [List.getD_eq_getElem?_getD, htj] at hb
        | some tj =>
          have hbt : y.2 ∈ tj := by simpa [List.getD_eq_getElem?_getD, htj] using hb
          cases tj with
          | nil => cases hbt
          | cons h r' =>
            exact ord_other_trace (har.2.2 a List.mem_cons_self) (hok _ (List.mem_of_getElem? htj)) hbt
              (hall y.1 h r' htj)

theorem schedule_ord (L : Nat) (ts : List (List Acc)) (h : ∀ t ∈ ts, TraceOk L t) :
    schedOrdB (schedule L ts) = true :=
  scheduleFuel_ord L (totalLen ts) ts (Nat.le_refl _) h

theorem schedule_mem (L : Nat) (ts : List (List Acc)) {y : Nat × Acc} (hy : y ∈ schedule L ts) :
    ∃ t ∈ ts, y.2 ∈ t := by
  have hb : y.2 ∈ ts.getD y.1 [] := by
    rw [← schedule_proj L ts y.1]; exact mem_proj hy
  cases htj : ts[y.1]? with
  | none => simp [List.getD_eq_getElem?_getD, htj] at hb
  | some tj =>
    exact ⟨tj, List.mem_of_getElem? htj, by simpa [List.getD_eq_getElem?_getD, htj] using hb⟩

end Traffic
end Ft
