/-
  Helper lemmas for C17: the lexicographic order on stamps (Python tuple comparison) and
  association lists (Python dicts).
-/
import FtModel.Traffic
import FtProofs.Lemmas.ListFacts
namespace Ft
namespace Traffic

theorem lexLt_isLex : IsLex (· < ·) lexLt :=
  ⟨rfl, fun _ _ => rfl, fun _ _ => rfl, fun _ _ _ _ => rfl, Nat.lt_irrefl, Nat.lt_trans,
    fun h1 h2 => Nat.le_antisymm (Nat.le_of_not_lt h2) (Nat.le_of_not_lt h1)⟩

theorem lexLt_irrefl (a : List Nat) : lexLt a a = false := lexLt_isLex.irrefl a

theorem lexLt_trans {a b c : List Nat} : lexLt a b = true → lexLt b c = true → lexLt a c = true :=
  lexLt_isLex.trans

theorem lexLt_total {a b : List Nat} : lexLt a b = false → lexLt b a = false → a = b :=
  lexLt_isLex.total

theorem lexLt_asymm {a b : List Nat} (h : lexLt a b = true) : lexLt b a = false := by
  cases hb : lexLt b a
  · rfl
  · have := lexLt_trans h hb
    rw [lexLt_irrefl] at this; cases this

theorem lexLt_ne {a b : List Nat} (h : lexLt a b = true) : a ≠ b := by
  intro e; subst e; rw [lexLt_irrefl] at h; cases h

theorem lexLe_refl (a : List Nat) : lexLe a a = true := by simp [lexLe, lexLt_irrefl]

theorem lexLe_of_lt {a b : List Nat} (h : lexLt a b = true) : lexLe a b = true := by
  simp [lexLe, lexLt_asymm h]

theorem lexLt_of_le_of_lt {a b c : List Nat} (h1 : lexLe a b = true) (h2 : lexLt b c = true) :
    lexLt a c = true := by
  simp only [lexLe, Bool.not_eq_true'] at h1
  cases hab : lexLt a b
  · have := lexLt_total hab h1; subst this; exact h2
  · exact lexLt_trans hab h2

theorem lexLt_of_lt_of_le {a b c : List Nat} (h1 : lexLt a b = true) (h2 : lexLe b c = true) :
    lexLt a c = true := by
  simp only [lexLe, Bool.not_eq_true'] at h2
  cases hbc : lexLt b c
  · have := lexLt_total hbc h2; subst this; exact h1
  · exact lexLt_trans h1 hbc

theorem lexLe_trans {a b c : List Nat} (h1 : lexLe a b = true) (h2 : lexLe b c = true) :
    lexLe a c = true := by
  cases hca : lexLt c a
  · simp [lexLe, hca]
  · have := lexLt_of_lt_of_le hca h1
    simp only [lexLe, Bool.not_eq_true'] at h2
    rw [h2] at this; cases this

theorem lexLe_of_not_lt {a b : List Nat} (h : lexLt b a = false) : lexLe a b = true := by
  simp [lexLe, h]

/-! stamp-sorted lists -/

theorem sorted_tail_ge : ∀ {l : List (List Nat)} {a : List Nat}, stampsSortedB (a :: l) = true →
    ∀ x ∈ l, lexLe a x = true
  | [], _, _, x, hx => by cases hx
  | b :: r, a, h, x, hx => by
    simp only [stampsSortedB, Bool.and_eq_true] at h
    rcases List.mem_cons.1 hx with rfl | hx
    · exact h.1
    · exact lexLe_trans h.1 (sorted_tail_ge h.2 x hx)

theorem stampsSorted_tail {a : List Nat} {l : List (List Nat)} (h : stampsSortedB (a :: l) = true) :
    stampsSortedB l = true := by
  cases l with
  | nil => rfl
  | cons b r => simp only [stampsSortedB, Bool.and_eq_true] at h; exact h.2

theorem stampsSorted_pairwise : ∀ {l : List (List Nat)}, stampsSortedB l = true →
    l.Pairwise (fun a b => lexLe a b = true)
  | [], _ => List.Pairwise.nil
  | _ :: _, h => List.pairwise_cons.2 ⟨sorted_tail_ge h, stampsSorted_pairwise (stampsSorted_tail h)⟩

theorem take_between : ∀ (e : Nat) (a b c : List Nat), lexLe a b = true → lexLe b c = true →
    a.take e = c.take e → b.take e = a.take e
  | 0, _, _, _, _, _, _ => by simp
  | e + 1, [], b, [], h1, h2, _ => by
    cases b with
    | nil => rfl
    | cons z zs => simp [lexLe, lexLt] at h2
  | e + 1, [], _, _ :: _, _, _, h => by simp at h
  | e + 1, _ :: _, _, [], _, _, h => by simp at h
  | e + 1, x :: xs, b, y :: ys, h1, h2, h => by
    simp only [List.take_succ_cons, List.cons.injEq] at h
    obtain ⟨hxy, hrest⟩ := h
    subst hxy
    cases b with
    | nil => simp [lexLe, lexLt] at h1
    | cons z zs =>
      simp only [lexLe, lexLt, Bool.not_eq_true'] at h1 h2
      have hzx : z = x := by
        by_cases h3 : z < x
        · simp [h3] at h1
        · by_cases h4 : x < z
          · simp [h4] at h2
          · omega
      subst hzx
      simp only [Nat.lt_irrefl, if_false] at h1 h2
      have := take_between e xs zs ys (by simp [lexLe, h1]) (by simp [lexLe, h2]) hrest
      simp [this]

/-- the check that `next` is the stamp of the first later access to the same line, row by row -/
theorem nextOkB_cons {a : Acc} {rest : List Acc} : nextOkB (a :: rest) = true ↔
    a.next = (rest.find? (fun x => decide (x.point = a.point))).map (·.stamp) ∧ nextOkB rest = true := by
  simp only [nextOkB, Bool.and_eq_true, decide_eq_true_eq]

section AList
variable {κ β : Type} [DecidableEq κ]

theorem alookup_ainsert (l : List (κ × β)) (k x : κ) (v : β) :
    alookup (ainsert l k v) x = if k = x then some v else alookup l x := by
  induction l with
  | nil => simp [ainsert, alookup]
  | cons e r ih =>
    obtain ⟨k', w⟩ := e
    by_cases h1 : k' = k
    · subst h1
      by_cases h2 : k' = x <;> simp [ainsert, alookup, h2]
    · by_cases h2 : k' = x
      · subst h2
        simp [ainsert, alookup, h1, Ne.symm h1]
      · simp [ainsert, alookup, h1, h2, ih]

theorem alookup_ainsert_self (l : List (κ × β)) (k : κ) (v : β) :
    alookup (ainsert l k v) k = some v := by
  rw [alookup_ainsert, if_pos rfl]

theorem alookup_ainsert_ne (l : List (κ × β)) {k x : κ} (v : β) (h : k ≠ x) :
    alookup (ainsert l k v) x = alookup l x := by
  rw [alookup_ainsert, if_neg h]

theorem alookup_aerase (l : List (κ × β)) (k x : κ) :
    alookup (aerase l k) x = if k = x then none else alookup l x := by
  induction l with
  | nil => simp [aerase, alookup]
  | cons e r ih =>
    obtain ⟨k', w⟩ := e
    unfold aerase at ih ⊢
    by_cases h1 : k' = k
    · -- the entry is erased; it is not the one looked up unless `k = x`
      rw [List.filter_cons_of_neg (by simpa using h1), ih]
      split
      · rfl
      · rename_i h2; rw [alookup, if_neg (h1 ▸ h2)]
    · rw [List.filter_cons_of_pos (by simpa using h1), alookup, alookup, ih]
      by_cases h2 : k' = x
      · rw [if_pos h2, if_pos h2, if_neg (fun e => h1 (h2.trans e.symm))]
      · rw [if_neg h2, if_neg h2]

theorem alookup_aerase_ne (l : List (κ × β)) {k x : κ} (h : k ≠ x) :
    alookup (aerase l k) x = alookup l x := by
  simp [alookup_aerase, h]

theorem aerase_length_lt (l : List (κ × β)) (k : κ) {v : β} (h : alookup l k = some v) :
    (aerase l k).length < l.length := by
  induction l with
  | nil => cases h
  | cons e r ih =>
    obtain ⟨k', w⟩ := e
    unfold aerase at ih ⊢
    by_cases h1 : k' = k
    · rw [List.filter_cons_of_neg (by simpa using h1), List.length_cons]
      exact Nat.lt_succ_of_le (List.length_filter_le _ r)
    · rw [alookup, if_neg h1] at h
      rw [List.filter_cons_of_pos (by simpa using h1), List.length_cons, List.length_cons]
      exact Nat.succ_lt_succ (ih h)

theorem alookup_nil (k : κ) : alookup ([] : List (κ × β)) k = none := rfl

end AList

end Traffic
end Ft
