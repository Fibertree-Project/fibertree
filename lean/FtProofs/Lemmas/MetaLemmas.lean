/-
  Helper lemmas for C14 (FtModel/Meta.lean): looking entries up by rank id on lists without duplicates
  and carrying them over a replaced block of ranks; the common suffix computed by swizzle; unflatten's
  loops; the bounds tests on integer coordinates; shape estimation; minimum / maximum of child ranges
  (flatten) and of range ends (swizzle's reset); coordinates delivered by intersection and difference.
-/
import FtModel.Meta
import FtModel.Coiter
import FtProofs.Lemmas.ListFacts
namespace Ft.C14

section look
variable {α : Type}

theorem lookD_cons_self (i : RId) (is : List RId) (x : α) (xs : List α) (d : α) :
    lookD (i :: is) (x :: xs) i d = x := by
  rw [lookD, if_pos rfl]

theorem lookD_cons_ne (i r : RId) (is : List RId) (x : α) (xs : List α) (d : α) (h : i ≠ r) :
    lookD (i :: is) (x :: xs) r d = lookD is xs r d := by
  rw [lookD, if_neg h]

theorem map_lookD_self (d : α) : ∀ (ids : List RId) (xs : List α), ids.Nodup → xs.length = ids.length →
    ids.map (fun r => lookD ids xs r d) = xs
  | [], [], _, _ => rfl
  | [], _ :: _, _, h => by simp at h
  | _ :: _, [], _, h => by simp at h
  | i :: is, x :: xs, hn, hl => by
    have hn' := List.nodup_cons.1 hn
    simp only [List.map_cons, lookD_cons_self]
    congr 1
    have ih := map_lookD_self d is xs hn'.2 (by simpa using hl)
    rw [← ih]
    apply List.map_congr_left
    intro r hr
    have : i ≠ r := fun e => hn'.1 (e ▸ hr)
    rw [lookD_cons_ne _ _ _ _ _ _ this, ih]

/-- the carry-over of per-rank entries through a transform that replaces the ranks `k … k' - 1` by `news`:
    a lookup by id that agrees with the operand's on the operand's ids keeps the entries before and
    after the block -/
theorem map_splice (d : α) (ids : List RId) (xs : List α) (hn : ids.Nodup) (hl : xs.length = ids.length)
    (g : RId → α) (hg : ∀ r ∈ ids, g r = lookD ids xs r d) (k k' : Nat) (news : List RId) :
    (ids.take k ++ news ++ ids.drop k').map g = xs.take k ++ news.map g ++ xs.drop k' := by
  rw [List.map_append, List.map_append,
    List.map_congr_left (fun r hr => hg r (List.mem_of_mem_take hr)),
    List.map_congr_left (fun r hr => hg r (List.mem_of_mem_drop hr)),
    List.map_take, List.map_drop, map_lookD_self d ids xs hn hl]

theorem lookD_getElem? (d : α) (ids : List RId) (xs : List α) (hn : ids.Nodup) (hl : xs.length = ids.length)
    (k : Nat) (r : RId) (hr : ids[k]? = some r) : xs[k]? = some (lookD ids xs r d) := by
  have h := map_lookD_self d ids xs hn hl
  have h2 : (ids.map (fun r => lookD ids xs r d))[k]? = xs[k]? := by rw [h]
  rw [List.getElem?_map, hr] at h2
  exact h2.symm

theorem lookD_all (d : α) : ∀ (ids : List RId) (xs : List α) (r : RId), (∀ x ∈ xs, x = d) → lookD ids xs r d = d
  | [], _, _, _ => by simp [lookD]
  | _ :: _, [], _, _ => by simp [lookD]
  | i :: is, x :: xs, r, h => by
    unfold lookD
    split
    · exact h x (List.mem_cons_self ..)
    · exact lookD_all d is xs r (fun y hy => h y (List.mem_cons_of_mem _ hy))

theorem map_swapAt {β : Type} (f : α → β) (k : Nat) (l : List α) : (swapAt k l).map f = swapAt k (l.map f) := by
  unfold swapAt
  simp only [List.map_append, List.map_take, List.map_drop]

theorem map_dupAt {β : Type} (f : α → β) (k : Nat) (l : List α) : (dupAt k l).map f = dupAt k (l.map f) := by
  unfold dupAt
  simp only [List.map_append, List.map_take, List.map_drop]

end look

theorem zip_takeWhile_take : ∀ (A B : List RId),
    A.take ((A.zip B).takeWhile (fun p => p.1 = p.2)).length =
    B.take ((A.zip B).takeWhile (fun p => p.1 = p.2)).length
  | [], _ => by simp
  | _ :: _, [] => by simp
  | a :: A, b :: B => by
    by_cases h : a = b
    · subst h
      simp only [List.zip_cons_cons, List.takeWhile_cons, decide_true, if_true, List.length_cons,
        List.take_succ_cons]
      rw [zip_takeWhile_take A B]
    · -- the heads differ: the common prefix is empty
      simp only [List.zip_cons_cons, List.takeWhile_cons, decide_eq_false h, Bool.false_eq_true, if_false,
        List.length_nil, List.take_zero]

theorem swizLen_drop (ids order : List RId) (hl : order.length = ids.length) :
    order.drop (swizLen ids order) = ids.drop (swizLen ids order) := by
  unfold swizLen
  have h := zip_takeWhile_take ids.reverse order.reverse
  rw [List.take_reverse, List.take_reverse] at h
  have h' := List.reverse_inj.1 h
  rw [hl] at h' ⊢
  exact h'.symm

theorem metaWfB_iff (m : Meta) : m.wfB = true ↔
    m.fmts.length = m.ids.length ∧ (∀ s, m.shape = some s → s.length = m.ids.length) ∧ m.ids.Nodup := by
  unfold Meta.wfB
  cases hs : m.shape with
  | none => simp
  | some s => simp [and_assoc]

theorem fmtOrC_of_mem {m : Meta} {r : RId} (h : r ∈ m.ids) : m.fmtOrC r = lookD m.ids m.fmts r Fmt.C :=
  if_pos h

theorem fmtOrC_of_not_mem {m : Meta} {r : RId} (h : r ∉ m.ids) : m.fmtOrC r = Fmt.C :=
  if_neg h

section splice
variable {α : Type}

theorem getElem?_mid (A B : List α) (x : α) : (A ++ [x] ++ B)[A.length]? = some x := by
  rw [List.append_assoc, List.getElem?_append_right (Nat.le_refl _)]
  simp

theorem take_mid (A B : List α) (x : α) : (A ++ [x] ++ B).take A.length = A := by
  rw [List.append_assoc, List.take_append]
  simp

theorem drop_mid (A B : List α) (x : α) : (A ++ [x] ++ B).drop (A.length + 1) = B := by
  rw [List.append_assoc, List.drop_append]
  simp

theorem take_mid_drop (s : List α) (k n : Nat) : s.take k ++ (s.drop k).take n ++ s.drop (k + n) = s := by
  rw [← List.drop_drop, List.append_assoc, List.take_append_drop, List.take_append_drop]

end splice

theorem unflIds_form : ∀ (l k : Nat) (ids ids' : List RId), unflIds (l + 1) k ids = some ids' →
    ∃ news, news.length = l + 2 ∧ ids' = ids.take k ++ news ++ ids.drop (k + 1)
  | 0, k, ids, ids', h => by
    unfold unflIds at h
    split at h
    · simp only [unflIds, Option.some.injEq] at h
      exact ⟨_, rfl, h.symm⟩
    · simp only [unflIds, Option.some.injEq] at h
      exact ⟨_, rfl, h.symm⟩
    · cases h
  | l + 1, k, ids, ids', h => by
    rw [unflIds] at h
    have step : ∀ (x y : RId), ids[k]?.isSome →
        unflIds (l + 1) (k + 1) (ids.take k ++ [x, y] ++ ids.drop (k + 1)) = some ids' →
        ∃ news, news.length = l + 1 + 2 ∧ ids' = ids.take k ++ news ++ ids.drop (k + 1) := by
      intro x y hk h
      have hklt : k < ids.length := by
        cases hh : ids[k]? with
        | none => rw [hh] at hk; cases hk
        | some v => exact (List.getElem?_eq_some_iff.1 hh).1
      have hlen : (ids.take k).length = k := List.length_take_of_le (Nat.le_of_lt hklt)
      obtain ⟨news, hn, he⟩ := unflIds_form l (k + 1) _ ids' h
      have t := take_app3 (ids.take k) (ids.drop (k + 1)) x y
      have d := drop_app3 (ids.take k) (ids.drop (k + 1)) x y
      rw [hlen] at t d
      rw [t, d] at he
      refine ⟨x :: news, by simp [hn], ?_⟩
      rw [he]; simp
    split at h
    · next a b hh => exact step _ _ (by rw [hh]; rfl) h
    · next a b c r hh => exact step _ _ (by rw [hh]; rfl) h
    · cases h

theorem flatMap_toList_map_one : ∀ (l : List String), (l.map RId.one).flatMap RId.toList = l
  | [] => rfl
  | a :: r => by simp [RId.toList, List.flatMap_cons, flatMap_toList_map_one r]

/-- unflatten undoes the id list a flatten made -/
theorem unflIds_many : ∀ (l : Nat) (pre post : List RId) (as : List String), as.length = l + 2 →
    unflIds (l + 1) pre.length (pre ++ [RId.many as] ++ post) = some (pre ++ as.map RId.one ++ post)
  | 0, pre, post, [a, b], _ => by
    rw [unflIds, getElem?_mid]
    simp only [unflIds, take_mid, drop_mid, List.map_cons, List.map_nil]
  | l + 1, pre, post, a :: b :: c :: r, h => by
    rw [unflIds, getElem?_mid]
    simp only [take_mid, drop_mid]
    have ih := unflIds_many l (pre ++ [RId.one a]) post (b :: c :: r) (by simpa using h)
    simp only [List.length_append, List.length_cons, List.length_nil, List.append_assoc, List.cons_append,
      List.nil_append, List.map_cons] at ih ⊢
    exact ih

/-- unflatten undoes a shape entry built by an encoding `enc` of the segment that the loop peels
    one member at a time -/
theorem unflShape_enc (enc : List Sx → Sx) (h2 : ∀ a b, enc [a, b] = .cons a (.cons b .nil))
    (h3 : ∀ (l k : Nat) (s : List Sx) (a b c : Sx) (r : List Sx), s[k]? = some (enc (a :: b :: c :: r)) →
      unflShape (l + 1) k s = unflShape l (k + 1) (s.take k ++ [a, enc (b :: c :: r)] ++ s.drop (k + 1))) :
    ∀ (l : Nat) (pre post : List Sx) (seg : List Sx), seg.length = l + 2 →
      unflShape (l + 1) pre.length (pre ++ [enc seg] ++ post) = some (pre ++ seg ++ post)
  | 0, pre, post, [a, b], _ => by
    rw [unflShape, getElem?_mid, h2]
    simp only [unflShape, take_mid, drop_mid]
  | l + 1, pre, post, a :: b :: c :: r, h => by
    rw [h3 _ _ _ a b c r (getElem?_mid ..), take_mid, drop_mid]
    have ih := unflShape_enc enc h2 h3 l (pre ++ [a]) post (b :: c :: r) (by simpa using h)
    simp only [List.length_append, List.length_cons, List.length_nil, List.append_assoc,
      List.cons_append, List.nil_append] at ih ⊢
    exact ih

theorem inShape_n (c s : Int) : Sx.inShape (.n c) (.n s) = (decide (0 ≤ c) && decide (c < s)) := rfl

theorem inRange_n (lo hi c : Int) :
    Sx.inRange (.n lo) (.n hi) (.n c) = (decide (lo ≤ c) && decide (c < hi)) := by
  unfold Sx.inRange Sx.cmp
  congr 1
  · cases h : compare lo c
    · exact (decide_eq_true (Int.le_of_lt (Int.compare_eq_lt.1 h))).symm
    · exact (decide_eq_true (Int.le_of_eq (Int.compare_eq_eq.1 h))).symm
    · exact (decide_eq_false (Int.not_le.2 (Int.compare_eq_gt.1 h))).symm
  · cases h : compare c hi
    · exact (decide_eq_true (Int.compare_eq_lt.1 h)).symm
    · exact (decide_eq_false (Int.not_lt.2 (Int.le_of_eq (Int.compare_eq_eq.1 h).symm))).symm
    · exact (decide_eq_false (Int.not_lt.2 (Int.le_of_lt (Int.compare_eq_gt.1 h)))).symm

theorem ascB_iff : ∀ (cs : List Int), ascB cs = true ↔ cs.Pairwise (· < ·)
  | [] => by simp [ascB]
  | [a] => by simp [ascB]
  | a :: b :: r => by
    rw [ascB, Bool.and_eq_true, decide_eq_true_eq, ascB_iff (b :: r), List.pairwise_cons (a := a)]
    constructor
    · rintro ⟨hab, hp⟩
      refine ⟨?_, hp⟩
      intro x hx
      rcases List.mem_cons.1 hx with rfl | hx
      · exact hab
      · exact Int.lt_trans hab ((List.pairwise_cons.1 hp).1 x hx)
    · rintro ⟨h1, hp⟩
      exact ⟨h1 b (List.mem_cons_self ..), hp⟩

theorem lt_estFiber (cs : List Int) (hp : cs.Pairwise (· < ·)) (c : Int) (hc : c ∈ cs) : c < estFiber cs := by
  obtain ⟨l, hl, hle⟩ := le_getLast cs hp c hc
  unfold estFiber
  rw [hl]; simp only; omega

theorem estFiber_nonneg (cs : List Int) (h : ∀ c ∈ cs, 0 ≤ c) : 0 ≤ estFiber cs := by
  unfold estFiber
  cases hl : cs.getLast? with
  | none => simp
  | some l => have := h l (List.mem_of_getLast? hl); simp only; omega

theorem estStep_ge (acc : Option Int) (cs : List Int) (ha : 0 ≤ acc.getD 0) (hc : 0 ≤ estFiber cs) :
    acc.getD 0 ≤ (estStep acc cs).getD 0 ∧ estFiber cs ≤ (estStep acc cs).getD 0 := by
  -- the recorded value becomes the maximum of the old one and the estimate of `cs`; an estimate 0 changes nothing
  unfold estStep
  cases acc with
  | none =>
    by_cases h : estFiber cs = 0
    · simp [h]
    · simp [h]; omega
  | some o =>
    have ha' : 0 ≤ o := by simpa using ha
    by_cases h : estFiber cs = 0
    · simp [h]; omega
    · simp [h]; omega

theorem foldl_estStep_ge : ∀ (fs : List (List Int)) (acc : Option Int), 0 ≤ acc.getD 0 →
    (∀ cs ∈ fs, 0 ≤ estFiber cs) →
    acc.getD 0 ≤ (fs.foldl estStep acc).getD 0 ∧ ∀ cs ∈ fs, estFiber cs ≤ (fs.foldl estStep acc).getD 0
  | [], acc, _, _ => ⟨Int.le_refl _, fun _ h => by cases h⟩
  | f :: fs, acc, ha, hf => by
    have h1 := estStep_ge acc f ha (hf f (List.mem_cons_self ..))
    have ha' : 0 ≤ (estStep acc f).getD 0 := Int.le_trans ha h1.1
    have ih := foldl_estStep_ge fs (estStep acc f) ha' (fun cs h => hf cs (List.mem_cons_of_mem _ h))
    rw [List.foldl_cons]
    refine ⟨Int.le_trans h1.1 ih.1, ?_⟩
    intro cs hcs
    rcases List.mem_cons.1 hcs with rfl | h
    · exact Int.le_trans h1.2 ih.1
    · exact ih.2 cs h

theorem lt_estLevel (fs : List (List Int)) (hasc : ∀ cs ∈ fs, cs.Pairwise (· < ·))
    (hnn : ∀ cs ∈ fs, ∀ c ∈ cs, 0 ≤ c) (cs : List Int) (hcs : cs ∈ fs) (c : Int) (hc : c ∈ cs) :
    c < estLevel fs := by
  have h := (foldl_estStep_ge fs none (by simp) (fun x hx => estFiber_nonneg x (hnn x hx))).2 cs hcs
  have := lt_estFiber cs (hasc cs hcs) c hc
  unfold estLevel
  omega

section flat
variable {π : Type}

theorem childLo_le (f : Fib Int (AF π)) (rs : Int) (h : childLo f = some rs) : ∀ e ∈ f, rs ≤ e.2.lo := by
  cases f with
  | nil => cases h
  | cons e r =>
    simp only [childLo, Option.some.injEq] at h
    subst h
    have := foldl_min_le (fun x : Int × AF π => x.2.lo) r e.2.lo
    intro x hx
    rcases List.mem_cons.1 hx with rfl | hx
    · exact this.1
    · exact this.2 x hx

theorem le_childHi (f : Fib Int (AF π)) (re : Int) (h : childHi f = some re) : ∀ e ∈ f, e.2.hi ≤ re := by
  cases f with
  | nil => cases h
  | cons e r =>
    simp only [childHi, Option.some.injEq] at h
    subst h
    have := le_foldl_max (fun x : Int × AF π => x.2.hi) r e.2.hi
    intro x hx
    rcases List.mem_cons.1 hx with rfl | hx
    · exact this.1
    · exact this.2 x hx

end flat

section merge
variable {α β : Type}

end merge

end Ft.C14
