/-
  Helper lemmas for C19 (swap-count model): chunking, the rounds with a finite latency,
  the tree walk and the skeleton of a tree.
-/
import FtModel.Compute
import FtProofs.Lemmas.ListFacts
namespace Ft

theorem chunks_nil {α : Type} (r : Nat) : chunks r ([] : List α) = [] := by
  rw [chunks]; simp

theorem chunks_zero {α : Type} (l : List α) : chunks 0 l = [] := by
  rw [chunks]; simp

theorem chunks_cons {α : Type} (r : Nat) (l : List α) (hr : r ≠ 0) (hl : l ≠ []) :
    chunks r l = l.take r :: chunks r (l.drop r) := by
  rw [chunks]; simp [hr, hl]

theorem flatten_chunks {α : Type} (r : Nat) (hr : r ≠ 0) (l : List α) : (chunks r l).flatten = l := by
  fun_induction chunks r l with
  | case1 l h =>
    rcases h with h | h
    · exact absurd h hr
    · simp [h]
  | case2 l h ih => simp [ih]

theorem length_pySort (l : List Int) : (pySort l).length = l.length := by
  simp [pySort]

theorem pySort_pairwise (l : List Int) : (pySort l).Pairwise (fun a b => decide (a ≤ b) = true) := by
  unfold pySort
  apply List.pairwise_mergeSort
  · intro a b c hab hbc
    simp only [decide_eq_true_eq] at *
    omega
  · intro a b
    simp only [Bool.or_eq_true, decide_eq_true_eq]
    omega

theorem pySort_perm (l : List Int) : (pySort l).Perm l := List.mergeSort_perm l _

theorem pySort_unique {l l' : List Int} (hp : l'.Perm l)
    (hs : l'.Pairwise (fun a b => decide (a ≤ b) = true)) : pySort l = l' := by
  apply List.Perm.eq_of_pairwise (le := fun a b => decide (a ≤ b) = true)
  · intro a b _ _ h1 h2
    simp only [decide_eq_true_eq] at h1 h2
    omega
  · exact pySort_pairwise _
  · exact hs
  · exact (pySort_perm l).trans hp.symm

theorem pySort_of_sorted (l : List Int) (h : l.Pairwise (· < ·)) : pySort l = l :=
  pySort_unique (List.Perm.refl l) (h.imp (fun {a b} hab => by simp only [decide_eq_true_eq]; omega))

theorem pySort_congr {l1 l2 : List Int} (h : l1.Perm l2) : pySort l1 = pySort l2 :=
  pySort_unique ((pySort_perm l2).trans h.symm) (pySort_pairwise l2)

theorem sum_map_mul {α : Type} (l : List α) (c : Nat) (f : α → Nat) :
    (l.map (fun x => c * f x)).sum = c * (l.map f).sum := by
  induction l with
  | nil => rfl
  | cons x r ih => simp only [List.map_cons, List.sum_cons, ih, Nat.mul_add]

theorem chunks_total (r : Nat) (hr : r ≠ 0) (coords : List (List Int)) :
    ((chunks r coords).map total).sum = total coords := by
  have := List.sum_map_flatMap (chunks r coords) id List.length
  rw [List.flatMap_id, flatten_chunks r hr] at this
  exact this.symm

theorem round_fin (lat r : Nat) (hr : r ≠ 0) (coords : List (List Int)) :
    (((chunks r coords).map (mergeChunk (Lat.fin lat))).map (·.1)).sum = lat * (coords.length + total coords) ∧
    (((chunks r coords).map (mergeChunk (Lat.fin lat))).map (·.2)).length = ceilDiv coords.length r ∧
    total (((chunks r coords).map (mergeChunk (Lat.fin lat))).map (·.2)) = total coords := by
  refine ⟨?_, ?_, ?_⟩
  · simp only [List.map_map]
    have : ((fun x : Nat × List Int => x.1) ∘ mergeChunk (Lat.fin lat)) =
        fun ch => lat * (ch.length + total ch) := by
      funext ch; simp [mergeChunk, mergeFin, length_pySort, total, List.length_flatten]
    rw [this, sum_map_mul, List.sum_map_add, chunks_total r hr, ← List.length_flatten, flatten_chunks r hr]
  · simp [length_chunks r hr]
  · simp only [List.map_map]
    have : (fun l : List Int => l.length) ∘ (fun x : Nat × List Int => x.2) ∘ mergeChunk (Lat.fin lat) = total := by
      funext ch; simp [mergeChunk, mergeFin, length_pySort, total, List.length_flatten]
    rw [total, List.map_map, this, chunks_total r hr]

/-- the radix is at least 2 (`float("inf")` allowed); smaller radices do not terminate in Python -/
def RadixOk : Option Nat → Prop
  | none => True
  | some r => 2 ≤ r

theorem clampRadix_some (r k : Nat) : clampRadix (some r) k = min r k := by
  show (if r > k then k else r) = min r k
  by_cases h : r ≤ k
  · rw [Nat.min_eq_left h, if_neg (Nat.not_lt.2 h)]
  · rw [Nat.min_eq_right (Nat.le_of_not_ge h), if_pos (Nat.lt_of_not_le h)]

theorem clamp_bounds (radix : Option Nat) (h : RadixOk radix) (k : Nat) (hk : 2 ≤ k) :
    2 ≤ clampRadix radix k ∧ clampRadix radix k ≤ k :=
  ⟨by cases radix with
      | none => exact hk
      | some r => rw [clampRadix_some]; exact Nat.le_min.2 ⟨h, hk⟩,
   clampRadix_le radix k⟩

/-- the clamped radix of one round acts on every later (shorter) round as the given one does -/
theorem clamp_clamp (radix : Option Nat) (k k' : Nat) (hk : k' ≤ k) :
    clampRadix (some (clampRadix radix k)) k' = clampRadix radix k' := by
  cases radix with
  | none => exact (clampRadix_some k k').trans (Nat.min_eq_right hk)
  | some r => rw [clampRadix_some, clampRadix_some, clampRadix_some, Nat.min_assoc, Nat.min_eq_right hk]

theorem ceilDiv_le (k r : Nat) (hr : r ≠ 0) : ceilDiv k r ≤ k := by
  cases k with
  | zero => exact Nat.le_of_eq (ceilDiv_zero r hr)
  | succ k =>
    show (k + 1 + r - 1) / r ≤ k + 1
    apply Nat.div_le_of_le_mul
    have : k ≤ r * k := Nat.le_mul_of_pos_left k (Nat.pos_of_ne_zero hr)
    rw [Nat.mul_succ]; omega

theorem roundsCost_eq (radix : Option Nat) (lat n k : Nat) :
    roundsCost radix lat n k =
      if 2 ≤ k ∧ 2 ≤ clampRadix radix k then
        lat * (k + n) + roundsCost radix lat n (ceilDiv k (clampRadix radix k))
      else 0 := by
  rw [roundsCost]
  by_cases h : 2 ≤ k ∧ 2 ≤ clampRadix radix k <;> simp [h]

theorem roundsCost_small (radix : Option Nat) (lat n k : Nat) (hk : k ≤ 1) : roundsCost radix lat n k = 0 := by
  rw [roundsCost_eq, if_neg (fun h => absurd h.1 (by omega))]

/-- the rounds with a finite latency are the closed-form rounds cost (and the fuel suffices).
    The implementation hands the clamped radix on to the next round: `radix'` is any radix
    that clamps like `radix` on the lengths still to come. -/
theorem swapRounds_fin (lat : Nat) (radix : Option Nat) (hr : RadixOk radix) (fuel : Nat) :
    ∀ (radix' : Option Nat) (coords : List (List Int)),
      (∀ k ≤ coords.length, clampRadix radix' k = clampRadix radix k) → coords.length ≤ fuel →
      swapRounds (Lat.fin lat) fuel radix' coords = roundsCost radix lat (total coords) coords.length := by
  induction fuel with
  | zero =>
    intro radix' coords _ hf
    rw [swapRounds, roundsCost_small _ _ _ _ (Nat.le_trans hf (Nat.zero_le 1))]
  | succ fuel ih =>
    intro radix' coords hrel hf
    rw [swapRounds]
    by_cases hk : coords.length ≤ 1
    · rw [if_pos hk, roundsCost_small _ _ _ _ hk]
    · have hk2 : 2 ≤ coords.length := Nat.lt_of_not_le hk
      obtain ⟨hc1, hc2⟩ := clamp_bounds radix hr coords.length hk2
      obtain ⟨h1, h2, h3⟩ := round_fin lat (clampRadix radix coords.length)
        (Nat.ne_of_gt (Nat.lt_of_lt_of_le Nat.zero_lt_two hc1)) coords
      have hlt := ceilDiv_lt hk2 hc1 hc2
      rw [← h2] at hlt
      rw [if_neg hk, roundsCost_eq, if_pos ⟨hk2, hc1⟩]
      simp only [hrel _ (Nat.le_refl _)]
      rw [h1, ih _ _ (fun k hk' => clamp_clamp radix _ k (Nat.le_trans hk' (Nat.le_of_lt hlt)))
        (Nat.le_of_lt_succ (Nat.lt_of_lt_of_le hlt hf)), h2, h3]

theorem total_map_negSorted (lists : List (List Int)) : total (lists.map negSorted) = total lists := by
  simp [total, negSorted, length_pySort, Function.comp_def]

theorem swapsAt_fin (radix : Option Nat) (hr : RadixOk radix) (lat : Nat) (lists : List (List Int)) :
    swapsAt radix (Lat.fin lat) lists = roundsCost radix lat (total lists) lists.length := by
  unfold swapsAt
  rw [swapRounds_fin lat radix hr _ radix _ (fun _ _ => rfl) (by simp), total_map_negSorted, List.length_map]

theorem numSwapsTree_eq_nodes {ν : Type} (e : Nat) (radix : Option Nat) (lat : Lat) :
    ∀ (depth : Nat) (t : Tree Int ν (e + 2 + depth)),
      numSwapsTree e radix lat depth t = ((mergeNodes e depth t).map (swapsAt radix lat)).sum := by
  intro depth
  induction depth with
  | zero => intro t; simp [numSwapsTree, mergeNodes]
  | succ depth ih =>
    intro (t : List (Int × Tree Int ν (e + 2 + depth)))
    show (t.map (fun el => numSwapsTree e radix lat depth el.2)).sum =
      ((t.flatMap (fun el => mergeNodes e depth el.2)).map (swapsAt radix lat)).sum
    rw [List.sum_map_flatMap]
    congr 1
    apply List.map_congr_left
    intro el _
    exact ih el.2

theorem coordsOf_skel {κ ν : Type} {d : Nat} (f : Tree κ ν (d + 1)) :
    coordsOf (d := d) (skel (d + 1) f) = coordsOf (d := d) f := by
  show ((show List (κ × Tree κ ν d) from f).map (fun el => (el.1, skel d el.2))).map (·.1) = _
  rw [List.map_map]; rfl

theorem storedLists_skel {ν : Type} (e : Nat) (l : List (Int × Tree Int ν (e + 1))) :
    storedLists (ν := ν) e l = storedLists (ν := Unit) e (l.map (fun el => (el.1, skel (e + 1) el.2))) := by
  show (l.map (fun el => coordsOf (d := e) el.2)).filter (fun l => !l.isEmpty) =
    ((l.map (fun el => (el.1, skel (e + 1) el.2))).map (fun el => coordsOf (d := e) el.2)).filter (fun l => !l.isEmpty)
  rw [List.map_map]
  congr 1
  apply List.map_congr_left
  intro el _
  exact (coordsOf_skel (d := e) el.2).symm

/-- the merged lists are those of the coordinate skeleton: payload values are never read -/
theorem mergeNodes_skel {ν : Type} (e : Nat) :
    ∀ (depth : Nat) (t : Tree Int ν (e + 2 + depth)),
      mergeNodes e depth t = skelNodes e depth (skel (e + 2 + depth) t) := by
  intro depth
  induction depth with
  | zero =>
    intro (t : List (Int × Tree Int ν (e + 1)))
    show [storedLists (ν := ν) e t] = [storedLists (ν := Unit) e (t.map (fun el => (el.1, skel (e + 1) el.2)))]
    rw [storedLists_skel]
  | succ depth ih =>
    intro (t : List (Int × Tree Int ν (e + 2 + depth)))
    show t.flatMap (fun el => mergeNodes e depth el.2) =
      (t.map (fun el => (el.1, skel (e + 2 + depth) el.2))).flatMap (fun el => mergeNodes (ν := Unit) e depth el.2)
    rw [List.flatMap_map]
    exact flatMap_congr_mem (fun el _ => ih el.2)

end Ft
