/-
  Helper lemmas for C18 (format footprints): sums over loops, the stack walk of
  `getSubTree`, the enumeration of reachable fibers, spec dictionaries.
-/
import FtModel.Format
import FtProofs.Lemmas.Sorted
set_option linter.unusedSectionVars false
namespace Ft

section
variable {ν : Type} [DecidableEq ν]

/-- sub-tree footprint of a stack entry, recomputed from the enumeration -/
def fpItemSpec (dflt : ν) (lv : Nat → FpLevel) (it : FpItem ν) : Nat := fpSubTreeSpec dflt lv it.h it.f

def fpItemSize (dflt : ν) (lv : Nat → FpLevel) (it : FpItem ν) : Nat := fpSize dflt lv it.h it.f

theorem fpSubTreeSpec_zero (dflt : ν) (lv : Nat → FpLevel) (f : Tree Int ν 1) :
    fpSubTreeSpec dflt lv 0 f = fpFiber (lv 0) (fpOcc 0 f) := by
  simp [fpSubTreeSpec, fpReach]

theorem fpSubTreeSpec_succ (dflt : ν) (lv : Nat → FpLevel) (d : Nat) (f : Tree Int ν (d + 2)) :
    fpSubTreeSpec dflt lv (d + 1) f =
      fpFiber (lv (d + 1)) (fpOcc (d + 1) f) +
        ((fpKids dflt (lv (d + 1)) d f).map (fun k => fpSubTreeSpec dflt lv d k.2)).sum := by
  simp only [fpSubTreeSpec, fpReach, List.map_cons, List.sum_cons, List.sum_map_flatMap, List.map_map]
  rfl

theorem fpItemSpec_step (dflt : ν) (lv : Nat → FpLevel) (it : FpItem ν) :
    fpItemSpec dflt lv it =
      fpItemCost lv it + ((fpItemKids dflt lv it).map (fpItemSpec dflt lv)).sum := by
  obtain ⟨h, f⟩ := it
  cases h with
  | zero => simp [fpItemSpec, fpItemCost, fpItemKids, fpSubTreeSpec_zero]
  | succ d =>
    simp only [fpItemSpec, fpItemCost, fpItemKids, fpSubTreeSpec_succ, List.map_map]
    rfl

theorem fpItemSize_step (dflt : ν) (lv : Nat → FpLevel) (it : FpItem ν) :
    fpItemSize dflt lv it = 1 + ((fpItemKids dflt lv it).map (fpItemSize dflt lv)).sum := by
  obtain ⟨h, f⟩ := it
  cases h with
  | zero => simp [fpItemSize, fpItemKids, fpSize]
  | succ d =>
    simp only [fpItemSize, fpItemKids, fpSize, List.map_map]
    rfl

/-- With at least as much fuel as fibers to visit, the stack loop returns the running total
    plus the sub-tree sums of everything on the stack — whatever the stack order. -/
theorem fpWalk_spec (dflt : ν) (lv : Nat → FpLevel) :
    ∀ (fuel : Nat) (stack : List (FpItem ν)) (total : Nat),
      (stack.map (fpItemSize dflt lv)).sum ≤ fuel →
      fpWalk dflt lv fuel stack total = total + (stack.map (fpItemSpec dflt lv)).sum := by
  intro fuel
  induction fuel with
  | zero =>
    intro stack total h
    cases stack with
    | nil => simp [fpWalk]
    | cons it r =>
      rw [List.map_cons, List.sum_cons, fpItemSize_step] at h
      omega
  | succ n ih =>
    intro stack total h
    cases stack with
    | nil => simp [fpWalk]
    | cons it r =>
      rw [List.map_cons, List.sum_cons, fpItemSize_step] at h
      rw [fpWalk, ih]
      · rw [List.map_append, List.sum_append, List.map_reverse, List.sum_reverse,
          List.map_cons, List.sum_cons, fpItemSpec_step dflt lv it]
        omega
      · rw [List.map_append, List.sum_append, List.map_reverse, List.sum_reverse]
        omega

theorem mem_fpKids_U {dflt : ν} {l : FpLevel} {d : Nat} {f : Tree Int ν (d + 2)}
    (hf : l.format = .U) (k : Int × Tree Int ν (d + 1)) :
    k ∈ fpKids dflt l d f ↔ 0 ≤ k.1 ∧ k.1 < (l.shape : Int) ∧ k.2 = fpChildAt d f k.1 := by
  simp only [fpKids, hf, List.mem_map, List.mem_range]
  constructor
  · rintro ⟨n, hn, rfl⟩
    exact ⟨Int.natCast_nonneg n, Int.ofNat_lt.2 hn, rfl⟩
  · rintro ⟨h0, h1, h2⟩
    refine ⟨k.1.toNat, by omega, ?_⟩
    have : ((k.1.toNat : Nat) : Int) = k.1 := by omega
    rw [this]
    exact Prod.ext rfl h2.symm

theorem mem_fpKids_C {dflt : ν} {l : FpLevel} {d : Nat} {f : Tree Int ν (d + 2)}
    (hf : l.format = .C) (k : Int × Tree Int ν (d + 1)) :
    k ∈ fpKids dflt l d f ↔
      k ∈ (show List (Int × Tree Int ν (d + 1)) from f) ∧ isEmpty dflt (d + 1) k.2 = false := by
  simp only [fpKids, hf, present]
  rw [List.mem_filter (as := (show List (Int × Tree Int ν (d + 1)) from f))]
  simp


theorem mem_fpReach_succ (dflt : ν) (lv : Nat → FpLevel) (d : Nat) (f : Tree Int ν (d + 2))
    (x : FpReached) :
    x ∈ fpReach dflt lv (d + 1) f ↔
      x = ([], d + 1, fpOcc (d + 1) f) ∨
      ∃ k ∈ fpKids dflt (lv (d + 1)) d f, ∃ r ∈ fpReach dflt lv d k.2, x = (k.1 :: r.1, r.2) := by
  simp only [fpReach, List.mem_cons, List.mem_flatMap, List.mem_map]
  constructor
  · rintro (h | ⟨k, hk, r, hr, rfl⟩)
    · exact Or.inl h
    · exact Or.inr ⟨k, hk, r, hr, rfl⟩
  · rintro (h | ⟨k, hk, r, hr, rfl⟩)
    · exact Or.inl h
    · exact Or.inr ⟨k, hk, r, hr, rfl⟩

/-- the enumeration lists the fiber itself under the empty path only -/
theorem mem_fpReach_nil (dflt : ν) (lv : Nat → FpLevel) (d : Nat) (f : Tree Int ν (d + 2)) (h o : Nat) :
    ([], h, o) ∈ fpReach dflt lv (d + 1) f ↔ h = d + 1 ∧ o = fpOcc (d + 1) f := by
  rw [mem_fpReach_succ]
  constructor
  · rintro (h1 | ⟨k, hk, r, hr, h2⟩)
    · simpa using h1
    · simp at h2
  · rintro ⟨rfl, rfl⟩; exact Or.inl rfl

/-- … and under a path `c :: p'` what it lists under `p'` below the child it enumerates at `c` -/
theorem mem_fpReach_cons (dflt : ν) (lv : Nat → FpLevel) (d : Nat) (f : Tree Int ν (d + 2))
    (c : Int) (p' : List Int) (h o : Nat) :
    (c :: p', h, o) ∈ fpReach dflt lv (d + 1) f ↔
      ∃ k ∈ fpKids dflt (lv (d + 1)) d f, k.1 = c ∧ (p', h, o) ∈ fpReach dflt lv d k.2 := by
  rw [mem_fpReach_succ]
  constructor
  · rintro (h1 | ⟨k, hk, r, hr, h2⟩)
    · simp at h1
    · obtain ⟨r1, r2, r3⟩ := r
      simp only [Prod.mk.injEq, List.cons.injEq] at h2
      obtain ⟨⟨rfl, rfl⟩, rfl, rfl⟩ := h2
      exact ⟨k, hk, rfl, hr⟩
  · rintro ⟨k, hk, rfl, hr⟩
    exact Or.inr ⟨k, hk, (p', h, o), hr, rfl⟩

/-- reachability through coordinate `c` is reachability below the child the rank's format presents at `c` -/
theorem fpReachable_cons_iff (dflt : ν) (lv : Nat → FpLevel) (d : Nat) (f : Tree Int ν (d + 2))
    (c : Int) (p' : List Int) (h o : Nat) :
    FpReachable dflt lv (d + 1) f (c :: p') h o ↔
      ∃ k ∈ fpKids dflt (lv (d + 1)) d f, k.1 = c ∧ FpReachable dflt lv d k.2 p' h o := by
  cases hfmt : (lv (d + 1)).format with
  | U =>
    simp only [FpReachable, hfmt]
    constructor
    · rintro ⟨h0, h1, hr⟩
      exact ⟨(c, fpChildAt d f c), (mem_fpKids_U hfmt _).2 ⟨h0, h1, rfl⟩, rfl, hr⟩
    · rintro ⟨k, hk, rfl, hr⟩
      obtain ⟨h0, h1, h2⟩ := (mem_fpKids_U hfmt k).1 hk
      exact ⟨h0, h1, h2 ▸ hr⟩
  | C =>
    simp only [FpReachable, hfmt]
    constructor
    · rintro ⟨g, hg, he, hr⟩
      exact ⟨(c, g), (mem_fpKids_C hfmt _).2 ⟨hg, he⟩, rfl, hr⟩
    · rintro ⟨k, hk, rfl, hr⟩
      obtain ⟨h0, h1⟩ := (mem_fpKids_C hfmt k).1 hk
      exact ⟨k.2, h0, h1, hr⟩

theorem fp_wfB_iff : ∀ (d : Nat) (t : Tree Int ν d), wfB d t = true ↔ WF d t := wfB_eq_true_iff

theorem fpUniq_of_wf : ∀ (d : Nat) (t : Tree Int ν d), WF d t → FpUniq d t := by
  intro d
  induction d with
  | zero => intro t _; trivial
  | succ d ih =>
    intro t hw
    have hs : List.Pairwise (fun x y => x.1 < y.1) (show List (Int × Tree Int ν d) from t) := hw.1
    exact ⟨hs.imp (fun {a b} h => by omega), fun e he => ih e.2 (hw.2 e he)⟩

theorem fpChildAt_uniq (d : Nat) (f : Tree Int ν (d + 2)) (hw : FpUniq (d + 2) f) (c : Int) :
    FpUniq (d + 1) (fpChildAt d f c) := by
  unfold fpChildAt
  cases hl : lookup (show List (Int × Tree Int ν (d + 1)) from f) c with
  | none =>
    simp only [fpEmptyFiber]
    exact ⟨List.Pairwise.nil, fun e he => by cases he⟩
  | some g =>
    simp only [Option.getD_some]
    exact hw.2 (c, g) (mem_of_lookup_eq_some hl)

theorem fpKids_uniq (dflt : ν) (l : FpLevel) (d : Nat) (f : Tree Int ν (d + 2)) (hw : FpUniq (d + 2) f) :
    ∀ k ∈ fpKids dflt l d f, FpUniq (d + 1) k.2 := by
  intro k hk
  cases hfmt : l.format with
  | U =>
    obtain ⟨_, _, h2⟩ := (mem_fpKids_U hfmt k).1 hk
    rw [h2]; exact fpChildAt_uniq d f hw _
  | C =>
    obtain ⟨h0, _⟩ := (mem_fpKids_C hfmt k).1 hk
    exact hw.2 k h0

theorem fpKids_pairwise_uniq (dflt : ν) (l : FpLevel) (d : Nat) (f : Tree Int ν (d + 2))
    (hw : FpUniq (d + 2) f) : (fpKids dflt l d f).Pairwise (fun a b => a.1 ≠ b.1) := by
  cases hfmt : l.format with
  | U =>
    simp only [fpKids, hfmt, List.pairwise_map]
    exact List.pairwise_lt_range.imp (fun {a b} h => by omega)
  | C =>
    simp only [fpKids, hfmt, present]
    have hs : List.Pairwise (fun x y => x.1 ≠ y.1) (show List (Int × Tree Int ν (d + 1)) from f) := hw.1
    exact hs.filter _

/-- distinct reachable fibers have distinct coordinate paths: the enumeration has no repeats -/
theorem fpReach_nodup_uniq (dflt : ν) (lv : Nat → FpLevel) :
    ∀ (d : Nat) (f : Tree Int ν (d + 1)), FpUniq (d + 1) f →
      ((fpReach dflt lv d f).map (·.1)).Nodup := by
  intro d
  induction d with
  | zero => intro f _; simp [fpReach]
  | succ d ih =>
    intro f hw
    simp only [fpReach, List.map_cons, List.map_flatMap, List.map_map]
    refine List.nodup_cons.2 ⟨?_, ?_⟩
    · intro hm
      obtain ⟨k, _, hm⟩ := List.mem_flatMap.1 hm
      obtain ⟨r, _, hr⟩ := List.mem_map.1 hm
      simp at hr
    · unfold List.Nodup
      refine List.pairwise_flatMap.2 ⟨?_, ?_⟩
      · intro k hk
        have := ih k.2 (fpKids_uniq dflt _ d f hw k hk)
        unfold List.Nodup at this
        rw [List.pairwise_map] at this ⊢
        exact this.imp (fun {a b} h => by simpa using h)
      · refine (fpKids_pairwise_uniq dflt _ d f hw).imp ?_
        intro a b hab x hx y hy
        obtain ⟨r, _, rfl⟩ := List.mem_map.1 hx
        obtain ⟨r', _, rfl⟩ := List.mem_map.1 hy
        simp [hab]

/-- zero levels down there is the fiber itself, under the empty path, with its `len` -/
theorem mem_fpFibersAt_zero (d : Nat) (f : Tree Int ν (d + 1)) (e : FpRankEntry) :
    e ∈ fpFibersAt d f 0 ↔ ∃ p, e.1 = some p ∧ p.length = 0 ∧ FpStored d f p e.2 := by
  have hst : ∀ o, FpStored d f [] o ↔ o = fpOcc d f := by
    intro o
    cases d with
    | zero => exact ⟨fun h => h.2, fun h => ⟨rfl, h⟩⟩
    | succ d => exact Iff.rfl
  have hfa : fpFibersAt d f 0 = [(some [], fpOcc d f)] := by cases d <;> rfl
  rw [hfa, List.mem_singleton]
  constructor
  · rintro rfl; exact ⟨[], rfl, rfl, (hst _).2 rfl⟩
  · rintro ⟨p, h1, h2, h3⟩
    obtain rfl := List.eq_nil_of_length_eq_zero h2
    exact Prod.ext h1 ((hst _).1 h3)

theorem mem_fpFibersAt_succ (d : Nat) (f : Tree Int ν (d + 2)) (i : Nat) (e : FpRankEntry) :
    e ∈ fpFibersAt (d + 1) f (i + 1) ↔
      ∃ x ∈ (show List (Int × Tree Int ν (d + 1)) from f), ∃ r ∈ fpFibersAt d x.2 i,
        e = (r.1.map (x.1 :: ·), r.2) := by
  show e ∈ List.flatMap (fun x => (fpFibersAt d x.2 i).map (fun r => (r.1.map (x.1 :: ·), r.2)))
      (show List (Int × Tree Int ν (d + 1)) from f) ↔ _
  constructor
  · intro h
    obtain ⟨x, hx, hm⟩ := List.mem_flatMap.1 h
    obtain ⟨r, hr, rfl⟩ := List.mem_map.1 hm
    exact ⟨x, hx, r, hr, rfl⟩
  · rintro ⟨x, hx, r, hr, rfl⟩
    exact List.mem_flatMap.2 ⟨x, hx, List.mem_map.2 ⟨r, hr, rfl⟩⟩

end

theorem lookupD_nil {κ π : Type} [DecidableEq κ] (c : κ) : lookup ([] : Fib κ π) c = none := rfl

theorem lookup_append_single (e : SpecDict) (k : String) (v : SpecVal) (k' : String) :
    lookup (e ++ [(k, v)]) k' =
      match lookup e k' with
      | some x => some x
      | none => if k = k' then some v else none := by
  induction e with
  | nil => simp [lookup_cons_ite, lookupD_nil]
  | cons x r ih =>
    rw [List.cons_append, lookup_cons_ite, lookup_cons_ite]
    by_cases h : x.1 = k'
    · simp [h]
    · simp [h, ih]

/-- what both `_checkFill…Field` functions do before they check the value: a missing key gets
    the default.  This is the inline `let e' := match lookup e k with …` of the model's `fillIntField` and
    `fillStrField`; `fillIntField_eq` / `fillStrField_eq` below restate those bodies and have to follow them. -/
def fillDefault (e : SpecDict) (k : String) (d : SpecVal) : SpecDict :=
  match lookup e k with
  | none => e ++ [(k, d)]
  | some _ => e

theorem lookup_fillDefault (e : SpecDict) (k : String) (d : SpecVal) (k' : String) :
    lookup (fillDefault e k d) k' =
      match lookup e k' with
      | some x => some x
      | none => if k = k' then some d else none := by
  unfold fillDefault
  cases hl : lookup e k with
  | none => exact lookup_append_single e k d k'
  | some v =>
    cases hl' : lookup e k' with
    | some x => rfl
    | none =>
      have : k ≠ k' := fun h => by rw [h, hl'] at hl; cases hl
      simp [this]

theorem fillIntField_eq {e e' : SpecDict} {k : String} (h : fillIntField e k = some e') :
    e' = fillDefault e k (SpecVal.int 0) := by
  have h' : (match lookup (fillDefault e k (SpecVal.int 0)) k with
      | some (SpecVal.int _) => some (fillDefault e k (SpecVal.int 0))
      | _ => none) = some e' := h
  split at h'
  · exact (Option.some.inj h').symm
  · cases h'

theorem fillStrField_eq {e e' : SpecDict} {k dflt : String} {opts : List String}
    (h : fillStrField e k dflt opts = some e') : e' = fillDefault e k (SpecVal.str dflt) := by
  have h' : (match lookup (fillDefault e k (SpecVal.str dflt)) k with
      | some (SpecVal.str s) => if opts.contains s then some (fillDefault e k (SpecVal.str dflt)) else none
      | _ => none) = some e' := h
  split at h'
  · split at h'
    · exact (Option.some.inj h').symm
    · cases h'
  · cases h'

end Ft
