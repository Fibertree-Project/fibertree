/-
  Helper lemmas for C17 (cache): the order of `ListElem`, `SortedList.add`, first / last element
  of a strictly sorted list, and `furthest` of the reference simulator.
-/
import FtProofs.Lemmas.TrafficBasic
namespace Ft
namespace Traffic

/-- what `ListElem.__eq__` tests: same next-access stamp and same binding position -/
def LElem.keq (a b : LElem) : Prop := a.next = b.next ∧ a.pos = b.pos

theorem LElem.lt_irrefl (a : LElem) : a.lt a = false := by simp [LElem.lt]

theorem LElem.lt_iff {a b : LElem} :
    a.lt b = true ↔ lexLt a.next b.next = true ∨ (a.next = b.next ∧ a.pos < b.pos) := by
  unfold LElem.lt
  by_cases h : a.next = b.next
  · simp [h, lexLt_irrefl]
  · simp only [ne_eq, h, not_false_eq_true, if_true, false_and, or_false]

theorem LElem.lt_trans {a b c : LElem} (h1 : a.lt b = true) (h2 : b.lt c = true) : a.lt c = true := by
  rw [LElem.lt_iff] at *
  rcases h1 with h1 | ⟨e1, h1⟩
  · rcases h2 with h2 | ⟨e2, _⟩
    · exact Or.inl (lexLt_trans h1 h2)
    · exact Or.inl (e2 ▸ h1)
  · rcases h2 with h2 | ⟨e2, h2⟩
    · exact Or.inl (e1 ▸ h2)
    · exact Or.inr ⟨e1.trans e2, Nat.lt_trans h1 h2⟩

theorem LElem.lt_asymm {a b : LElem} (h : a.lt b = true) : b.lt a = false := by
  cases hb : b.lt a
  · rfl
  · have := LElem.lt_trans h hb; rw [LElem.lt_irrefl] at this; cases this

theorem LElem.lt_total {a b : LElem} (h1 : a.lt b = false) (h2 : b.lt a = false) : a.keq b := by
  unfold LElem.lt at *
  by_cases hab : a.next = b.next
  · simp only [hab, ne_eq, not_true_eq_false, if_false, decide_eq_false_iff_not] at h1 h2
    exact ⟨hab, by omega⟩
  · have hba : ¬ b.next = a.next := fun e => hab e.symm
    simp only [hab, ne_eq, not_false_eq_true, if_true] at h1
    simp only [hba, ne_eq, not_false_eq_true, if_true] at h2
    exact absurd (lexLt_total h1 h2) hab

theorem LElem.not_keq_of_lt {a b : LElem} (h : a.lt b = true) : ¬ a.keq b := by
  rintro ⟨h1, h2⟩
  simp [LElem.lt, h1, h2] at h

theorem LElem.le_iff {a b : LElem} (hne : ¬ a.keq b) : a.le b = true ↔ b.lt a = false := by
  unfold LElem.le
  constructor
  · intro h
    simp only [Bool.or_eq_true, Bool.and_eq_true, decide_eq_true_eq] at h
    rcases h with h | h
    · exact LElem.lt_asymm h
    · exact absurd h hne
  · intro h
    cases hab : a.lt b
    · exact absurd (LElem.lt_total hab h) hne
    · simp

def SSorted (l : List LElem) : Prop := l.Pairwise (fun a b => a.lt b = true)

theorem mem_sortedAdd (e : LElem) : ∀ (l : List LElem) (y : LElem), y ∈ sortedAdd e l ↔ y = e ∨ y ∈ l
  | [], y => by simp [sortedAdd]
  | x :: xs, y => by
    unfold sortedAdd
    split
    · simp
    · simp only [List.mem_cons, mem_sortedAdd e xs y]
      exact or_left_comm

theorem sortedAdd_length (e : LElem) : ∀ (l : List LElem), (sortedAdd e l).length = l.length + 1
  | [] => rfl
  | x :: xs => by
    unfold sortedAdd
    split
    · simp
    · simp [sortedAdd_length e xs]

theorem sortedAdd_sorted (e : LElem) : ∀ (l : List LElem), SSorted l → (∀ x ∈ l, ¬ e.keq x) →
    SSorted (sortedAdd e l)
  | [], _, _ => by simp [sortedAdd, SSorted]
  | x :: xs, hs, hne => by
    unfold sortedAdd
    have hs' := List.pairwise_cons.1 hs
    split
    · rename_i hlt
      apply List.pairwise_cons.2
      refine ⟨?_, hs⟩
      intro y hy
      rcases List.mem_cons.1 hy with rfl | hy
      · exact hlt
      · exact LElem.lt_trans hlt (hs'.1 y hy)
    · rename_i hnlt
      apply List.pairwise_cons.2
      refine ⟨?_, sortedAdd_sorted e xs hs'.2 (fun y hy => hne y (List.mem_cons_of_mem _ hy))⟩
      intro y hy
      rcases (mem_sortedAdd e xs y).1 hy with rfl | hy
      · cases hxe : x.lt y
        · exfalso
          have hk := LElem.lt_total (by simpa using hnlt) hxe
          exact hne x List.mem_cons_self hk
        · rfl
      · exact hs'.1 y hy

theorem ssorted_head {h : LElem} {t : List LElem} (hs : SSorted (h :: t)) {m : LElem} (hm : m ∈ h :: t)
    (hmin : ∀ y ∈ h :: t, y ≠ m → m.lt y = true) : m = h := by
  rcases List.mem_cons.1 hm with rfl | hmt
  · rfl
  · have h1 := (List.pairwise_cons.1 hs).1 m hmt
    by_cases e : h = m
    · exact e.symm
    · have h2 := hmin h List.mem_cons_self e
      rw [LElem.lt_asymm h1] at h2; cases h2

theorem ssorted_nodup {l : List LElem} (hs : SSorted l) : l.Nodup := by
  unfold SSorted at hs
  apply List.Pairwise.imp _ hs
  intro a b h e
  subst e; rw [LElem.lt_irrefl] at h; cases h

theorem ssorted_last : ∀ {l : List LElem} {far : LElem}, SSorted l → l.getLast? = some far →
    far ∈ l ∧ ∀ y ∈ l, y = far ∨ y.lt far = true
  | [x], far, _, h => by
    simp at h; subst h; simp
  | x :: y :: r, far, hs, h => by
    have hs' := List.pairwise_cons.1 hs
    have h' : (y :: r).getLast? = some far := by simpa [List.getLast?_cons_cons] using h
    obtain ⟨hm, hall⟩ := ssorted_last hs'.2 h'
    refine ⟨List.mem_cons_of_mem _ hm, ?_⟩
    intro z hz
    rcases List.mem_cons.1 hz with rfl | hz
    · exact Or.inr (hs'.1 far hm)
    · exact hall z hz
  | [], _, _, h => by simp at h

theorem dropLast_append_last {α : Type} {l : List α} {far : α} (h : l.getLast? = some far) :
    l = l.dropLast ++ [far] := by
  have hne : l ≠ [] := by intro e; rw [e] at h; cases h
  have := List.dropLast_concat_getLast hne
  rw [List.getLast?_eq_some_getLast hne] at h
  cases h
  exact this.symm

theorem mem_dropLast_of_ssorted {l : List LElem} {far : LElem} (hs : SSorted l)
    (h : l.getLast? = some far) (y : LElem) : y ∈ l.dropLast ↔ y ∈ l ∧ y ≠ far := by
  have hl := dropLast_append_last h
  have hnd := ssorted_nodup hs
  rw [hl] at hnd
  have hnd' := List.nodup_append.1 hnd
  constructor
  · intro hy
    refine ⟨by rw [hl]; exact List.mem_append_left _ hy, ?_⟩
    intro e; subst e
    exact hnd'.2.2 y hy y (by simp) rfl
  · rintro ⟨hy, hne⟩
    rw [hl] at hy
    rcases List.mem_append.1 hy with h1 | h1
    · exact h1
    · simp at h1; exact absurd h1 hne

theorem ssorted_tail {h : LElem} {t : List LElem} (hs : SSorted (h :: t)) : SSorted t :=
  (List.pairwise_cons.1 hs).2

theorem furthest_none {res : List REntry} :
    furthest res = none ↔ ∀ e ∈ res, e.pinned = true := by
  induction res with
  | nil => simp [furthest]
  | cons e r ih =>
    cases he : e.pinned
    · simp only [furthest, he, Bool.false_eq_true, if_false]
      constructor
      · -- an unpinned head makes the result `some`, whatever the tail gives
        intro h
        cases hf : furthest r with
        | none => rw [hf] at h; cases h
        | some f => rw [hf] at h; dsimp only at h; split at h <;> cases h
      · intro h
        have := h e List.mem_cons_self
        rw [he] at this; cases this
    · simp only [furthest, he, if_true, ih]
      constructor
      · intro h x hx
        rcases List.mem_cons.1 hx with rfl | hx
        · exact he
        · exact h x hx
      · intro h x hx; exact h x (List.mem_cons_of_mem _ hx)

/-- `nextIdx` counts the accesses that remain after the next use: the furthest line has the least -/
theorem furthest_some {res : List REntry} {f : REntry}
    (h : furthest res = some f) :
    f ∈ res ∧ f.pinned = false ∧ ∀ e ∈ res, e.pinned = false → f.nextIdx ≤ e.nextIdx := by
  induction res generalizing f with
  | nil => simp [furthest] at h
  | cons e r ih =>
    cases he : e.pinned
    · simp only [furthest, he, Bool.false_eq_true, if_false] at h
      cases hf : furthest r with
      | none =>
        simp only [hf, Option.some.injEq] at h
        subst h
        exact ⟨List.mem_cons_self, he, List.forall_mem_cons.2 ⟨fun _ => Nat.le_refl _,
          fun x hx hxp => by rw [furthest_none.1 hf x hx] at hxp; cases hxp⟩⟩
      | some g =>
        obtain ⟨hg, hgp, hall⟩ := ih hf
        simp only [hf] at h
        by_cases hlt : e.nextIdx < g.nextIdx
        · simp only [hlt, if_true, Option.some.injEq] at h
          subst h
          exact ⟨List.mem_cons_self, he, List.forall_mem_cons.2 ⟨fun _ => Nat.le_refl _,
            fun x hx hxp => Nat.le_trans (Nat.le_of_lt hlt) (hall x hx hxp)⟩⟩
        · simp only [hlt, if_false, Option.some.injEq] at h
          subst h
          exact ⟨List.mem_cons_of_mem _ hg, hgp, List.forall_mem_cons.2 ⟨fun _ => Nat.le_of_not_lt hlt, hall⟩⟩
    · simp only [furthest, he, if_true] at h
      obtain ⟨hg, hgp, hall⟩ := ih h
      exact ⟨List.mem_cons_of_mem _ hg, hgp, List.forall_mem_cons.2
        ⟨fun hxp => (by rw [he] at hxp; cases hxp), hall⟩⟩

end Traffic
end Ft
