/-
  Lemmas for C15 (namespace Ft.C15): association-list dictionaries, folds into `Option`, the `Metrics`
  state machine one call at a time, and what a list of calls adds up to (`sumInc`, `runOps`).
-/
import FtModel.MetricsKernel
import FtProofs.Lemmas.ListFacts
set_option linter.unusedSectionVars false
namespace Ft.C15

section
variable {κ α : Type} [BEq κ]

theorem dget_cons (e : κ × α) (d : List (κ × α)) (k : κ) :
    dget (e :: d) k = if e.1 == k then some e.2 else dget d k := by
  unfold dget
  rw [List.find?_cons]
  by_cases h : e.1 == k <;> simp [h]

theorem dhas_cons (e : κ × α) (d : List (κ × α)) (k : κ) :
    dhas (e :: d) k = (e.1 == k || dhas d k) := by
  simp [dhas]

theorem keys_dset_new (d : List (κ × α)) (k : κ) (v : α) (h : dhas d k = false) :
    (dset d k v).map (·.1) = d.map (·.1) ++ [k] := by
  unfold dset
  simp [h]

theorem mem_dset (d : List (κ × α)) (k : κ) (v : α) (e : κ × α)
    (h : e ∈ dset d k v) : e ∈ d ∨ e = (k, v) := by
  unfold dset at h
  split at h
  · obtain ⟨x, hx, rfl⟩ := List.mem_map.1 h
    by_cases hk : x.1 == k
    · right; simp [hk]
    · left; simp [hk, hx]
  · rcases List.mem_append.1 h with h | h
    · exact Or.inl h
    · right; simpa using h

end

section
variable {κ α : Type} [BEq κ] [LawfulBEq κ]

theorem dget_nil (k : κ) : dget ([] : List (κ × α)) k = none := rfl

theorem dhas_eq_isSome (d : List (κ × α)) (k : κ) : dhas d k = (dget d k).isSome := by
  induction d with
  | nil => rfl
  | cons e d ih =>
    rw [dhas_cons, dget_cons, ih]
    by_cases h : e.1 == k <;> simp [h]

theorem dhas_of_dget {d : List (κ × α)} {k : κ} {v : α} (h : dget d k = some v) : dhas d k = true := by
  rw [dhas_eq_isSome, h]; rfl

theorem dget_of_dhas {d : List (κ × α)} {k : κ} (h : dhas d k = true) : ∃ v, dget d k = some v := by
  rw [dhas_eq_isSome] at h; exact Option.isSome_iff_exists.1 h

theorem dget_append_new (d : List (κ × α)) (k : κ) (v : α) (k' : κ) :
    dget (d ++ [(k, v)]) k' = match dget d k' with | some x => some x | none => if k == k' then some v else none := by
  induction d with
  | nil => simp [dget_cons, dget_nil]
  | cons e d ih =>
    simp only [List.cons_append, dget_cons]
    by_cases h : e.1 == k' <;> simp [h, ih]

theorem dget_map_set (d : List (κ × α)) (k : κ) (v : α) (k' : κ) :
    dget (d.map (fun e => if e.1 == k then (k, v) else e)) k' =
      if k' == k then (if dhas d k then some v else none) else dget d k' := by
  induction d with
  | nil => simp [dget_nil, dhas]
  | cons e d ih =>
    simp only [List.map_cons, dget_cons, dhas_cons]
    by_cases h : e.1 == k
    · have hk : e.1 = k := eq_of_beq h
      simp only [h, if_true, Bool.true_or]
      by_cases h2 : k' == k
      · have : k = k' := (eq_of_beq h2).symm
        simp [this]
      · have h3 : (k == k') = false := by
          cases h4 : (k == k') with
          | false => rfl
          | true => exact absurd (beq_iff_eq.2 (eq_of_beq h4).symm) h2
        have h5 : (e.1 == k') = false := by rw [hk]; exact h3
        simp [h2, h3, h5, ih]
    · simp only [h, Bool.false_eq_true, if_false, Bool.false_or]
      by_cases h2 : k' == k
      · have hk : k' = k := eq_of_beq h2
        have h5 : (e.1 == k') = false := by
          rw [hk]; simpa using h
        simp [h2, h5, ih]
      · by_cases h5 : e.1 == k' <;> simp [h2, h5, ih]

theorem dget_dset_self (d : List (κ × α)) (k : κ) (v : α) : dget (dset d k v) k = some v := by
  unfold dset
  by_cases h : dhas d k = true
  · simp [h, dget_map_set]
  · have h' : dhas d k = false := by simpa using h
    rw [if_neg h, dget_append_new]
    have : dget d k = none := by
      have := dhas_eq_isSome d k
      rw [h'] at this
      cases hd : dget d k with
      | none => rfl
      | some x => rw [hd] at this; simp at this
    simp [this]

theorem dget_dset_ne (d : List (κ × α)) {k k' : κ} (v : α) (h : k' ≠ k) : dget (dset d k v) k' = dget d k' := by
  have hb : (k' == k) = false := by simpa using h
  have hb' : (k == k') = false := by
    cases h4 : (k == k') with
    | false => rfl
    | true => exact absurd (eq_of_beq h4).symm h
  unfold dset
  by_cases hh : dhas d k = true
  · simp [hh, dget_map_set, hb]
  · rw [if_neg hh, dget_append_new]
    cases dget d k' <;> simp [hb']

theorem dhas_dset (d : List (κ × α)) (k : κ) (v : α) (k' : κ) :
    dhas (dset d k v) k' = (k' == k || dhas d k') := by
  rw [dhas_eq_isSome, dhas_eq_isSome]
  by_cases h : k' = k
  · subst h; simp [dget_dset_self]
  · have hb : (k' == k) = false := by simpa using h
    rw [dget_dset_ne d v h, hb]; simp

theorem keys_dset_has (d : List (κ × α)) (k : κ) (v : α) (h : dhas d k = true) :
    (dset d k v).map (·.1) = d.map (·.1) := by
  unfold dset
  rw [if_pos h, List.map_map]
  apply List.map_congr_left
  intro e _
  by_cases h2 : e.1 == k
  · simp [(eq_of_beq h2)]
  · simp [h2]

theorem dhas_iff_mem_keys (d : List (κ × α)) (k : κ) : dhas d k = true ↔ k ∈ d.map (·.1) := by
  simp only [dhas, List.any_eq_true, List.mem_map]
  constructor
  · rintro ⟨e, he, h⟩; exact ⟨e, he, eq_of_beq h⟩
  · rintro ⟨e, he, h⟩; exact ⟨e, he, by simp [h]⟩

theorem dget_mem (d : List (κ × α)) (k : κ) (v : α) (h : dget d k = some v) : (k, v) ∈ d := by
  induction d with
  | nil => simp [dget_nil] at h
  | cons e d ih =>
    rw [dget_cons] at h
    by_cases h2 : e.1 == k
    · simp only [h2, if_true, Option.some.injEq] at h
      have : e = (k, v) := by rw [← h, ← eq_of_beq h2]
      rw [this]; exact List.mem_cons_self
    · simp only [h2, Bool.false_eq_true, if_false] at h
      exact List.mem_cons_of_mem _ (ih h)

theorem dget_of_mem_nodup (d : List (κ × α)) (hn : (d.map (·.1)).Nodup) (e : κ × α) (he : e ∈ d) :
    dget d e.1 = some e.2 := by
  induction d with
  | nil => cases he
  | cons x d ih =>
    rw [dget_cons]
    simp only [List.map_cons, List.nodup_cons] at hn
    rcases List.mem_cons.1 he with rfl | he
    · simp
    · have : (x.1 == e.1) = false := by
        cases h : (x.1 == e.1) with
        | false => rfl
        | true =>
          exfalso; apply hn.1
          rw [eq_of_beq h]; exact List.mem_map.2 ⟨e, he, rfl⟩
      simp [this, ih hn.2 he]

theorem nodup_keys_dset (d : List (κ × α)) (k : κ) (v : α) (hn : (d.map (·.1)).Nodup) :
    ((dset d k v).map (·.1)).Nodup := by
  by_cases h : dhas d k = true
  · rw [keys_dset_has _ _ _ h]; exact hn
  · rw [keys_dset_new _ _ _ (by simpa using h), List.nodup_append]
    refine ⟨hn, by simp, ?_⟩
    intro a ha b hb
    rw [List.mem_singleton.1 hb]
    intro e
    rw [e, ← dhas_iff_mem_keys] at ha
    exact h ha

end

/-! ### `List.foldlM` into `Option`: general facts, no model content -/

theorem foldlM_preserve_mem {β σ : Type} (f : σ → β → Option σ) (P : σ → Prop) :
    ∀ (l : List β) (s s' : σ), (∀ s b s', b ∈ l → P s → f s b = some s' → P s') →
      P s → l.foldlM f s = some s' → P s' := by
  intro l
  induction l with
  | nil => intro s s' _ hp h; simp [List.foldlM] at h; rw [← h]; exact hp
  | cons b l ih =>
    intro s s' hf hp h
    simp only [List.foldlM_cons] at h
    cases hb : f s b with
    | none => rw [hb] at h; simp at h
    | some s1 =>
      rw [hb] at h
      exact ih s1 s' (fun s b' s' hm => hf s b' s' (List.mem_cons_of_mem _ hm))
        (hf s b s1 List.mem_cons_self hp hb) h

/-- `_writeTrace` and `_startTrace` only touch the traces (keeping their keys) and the files: the attributes
    read elsewhere are the same -/
structure SameCore (s s' : MState) : Prop where
  arm : s'.allRankMatches = s.allRankMatches
  it : s'.iteration = s.iteration
  lo : s'.lineOrder = s.lineOrder
  lp : s'.loopOrder = s.loopOrder
  met : s'.metrics = s.metrics
  pt : s'.point = s.point
  rm : s'.rankMatches = s.rankMatches
  keys : s'.traces.map (·.1) = s.traces.map (·.1)

theorem SameCore.refl (s : MState) : SameCore s s :=
  ⟨rfl, rfl, rfl, rfl, rfl, rfl, rfl, rfl⟩

theorem SameCore.trans {a b c : MState} (h1 : SameCore a b) (h2 : SameCore b c) : SameCore a c :=
  ⟨h2.arm.trans h1.arm, h2.it.trans h1.it, h2.lo.trans h1.lo, h2.lp.trans h1.lp, h2.met.trans h1.met,
   h2.pt.trans h1.pt, h2.rm.trans h1.rm, h2.keys.trans h1.keys⟩

theorem writeTrace_some {s s' : MState} {r t : String} (h : writeTrace s r t = some s') :
    ∃ tr p f, dget s.traces (r, t) = some tr ∧ s.pfx = some p ∧ tr.file = some f ∧
      s' = { s with fs := dset s.fs (p, r, t) (fileBase s (p, r, t) tr.started ++ f),
                    traces := dset s.traces (r, t) { tr with file := some [], started := true } } := by
  unfold writeTrace at h
  split at h
  · rename_i tr p htr hp
    split at h
    · rename_i f hf
      simp only [Option.some.injEq] at h
      exact ⟨tr, p, f, htr, hp, hf, h.symm⟩
    · cases h
  · cases h

theorem writeTrace_core {s s' : MState} {r t : String} (h : writeTrace s r t = some s') : SameCore s s' := by
  obtain ⟨tr, p, f, htr, hp, hf, rfl⟩ := writeTrace_some h
  refine ⟨rfl, rfl, rfl, rfl, rfl, rfl, rfl, ?_⟩
  exact keys_dset_has _ _ _ (dhas_of_dget htr)

theorem startTrace_some {s s' : MState} {r t : String} (h : startTrace s r t = some s') :
    ∃ i lp tr fs', lineIdx s r = some i ∧ s.loopOrder = some lp ∧ dget s.traces (r, t) = some tr ∧
      (match tr.file with
        | some _ => s.pfx.map (fun p => dset s.fs (p, r, t) [])
        | none => some s.fs) = some fs' ∧
      s' = { s with fs := fs',
                    traces := dset s.traces (r, t)
                      { file := tr.file.map (· ++ [headerRow lp i]), mem := tr.mem.map (· ++ [headerRow lp i]),
                        started := true } } := by
  unfold startTrace at h
  split at h
  · rename_i i lp tr hi hlp htr
    split at h
    · rename_i fs' hfs
      simp only [Option.some.injEq] at h
      exact ⟨i, lp, tr, fs', hi, hlp, htr, hfs, h.symm⟩
    · cases h
  · cases h

theorem startTrace_core {s s' : MState} {r t : String} (h : startTrace s r t = some s') : SameCore s s' := by
  obtain ⟨i, lp, tr, fs', hi, hlp, htr, hfs, rfl⟩ := startTrace_some h
  refine ⟨rfl, rfl, rfl, rfl, rfl, rfl, rfl, ?_⟩
  exact keys_dset_has _ _ _ (dhas_of_dget htr)

theorem startAll_core {s s' : MState} {r : String} (h : startAll s r = some s') : SameCore s s' := by
  unfold startAll at h
  exact foldlM_preserve_mem (fun s ty => startTrace s r ty) (fun x => SameCore s x) _ s s'
    (fun a b c _ hp hb => hp.trans (startTrace_core hb)) (SameCore.refl s) h

/-- inversion of `Option.map (.unit, ·)`, the shape `step` has on every call that returns nothing -/
theorem unit_step {o : Option MState} {x : MRet} {s' : MState}
    (h : o.map (fun s' => (MRet.unit, s')) = some (x, s')) : o = some s' := by
  cases o with
  | none => cases h
  | some a => cases h; rfl

theorem mIncIter_some {r : String} {s s' : MState} (h : mIncIter r s = some s') :
    ∃ it i, s.iteration = some it ∧ lineIdx s r = some i ∧ i < it.length ∧
      s' = { s with iteration := some (it.modify i (· + 1)) } := by
  unfold mIncIter at h
  split at h
  · split at h
    · rename_i it i hit hi
      split at h
      · rename_i hlt; cases h; exact ⟨it, i, hit, hi, hlt, rfl⟩
      · cases h
    · cases h
  · cases h

theorem mEndIter_some {r : String} {s s' : MState} (h : mEndIter r s = some s') :
    ∃ it i, s.iteration = some it ∧ lineIdx s r = some i ∧ i < it.length ∧
      s' = { s with fiberLabel := dset s.fiberLabel r 0, iteration := some (it.set i 0) } := by
  unfold mEndIter at h
  split at h
  · split at h
    · rename_i it i hit hi
      split at h
      · rename_i hlt; cases h; exact ⟨it, i, hit, hi, hlt, rfl⟩
      · cases h
    · cases h
  · cases h

theorem step_getLabel {r : String} {s s' : MState} {x : MRet} (h : step (.getLabel r) s = some (x, s')) :
    ∃ fl, s' = { s with fiberLabel := fl } := by
  simp only [step, Option.map_eq_some_iff] at h
  obtain ⟨y, h1, h2⟩ := h
  cases h2
  unfold mGetLabel at h1
  split at h1
  · split at h1
    · simp only at h1
      split at h1
      · cases h1; exact ⟨_, rfl⟩
      · cases h1
    · cases h1
  · cases h1

theorem mIncCount_some {l k : String} {n : Int} {s s' : MState} (h : mIncCount l k n s = some s') :
    ∃ m, s.collecting = true ∧ s.metrics = some m ∧
      s' = { s with metrics := some (dset m (strip l) (dset ((dget m (strip l)).getD []) k
        ((dget ((dget m (strip l)).getD []) k).getD 0 + n))) } := by
  unfold mIncCount at h
  split at h
  · rename_i hc
    split at h
    · rename_i m hm; cases h; exact ⟨m, hc, hm, rfl⟩
    · cases h
  · cases h

theorem mTrace_some {r t : String} {c : Bool} {s s' : MState} (h : mTrace r t c s = some s') :
    ∃ tr, s' = { s with traces := dset s.traces (r, t) tr } := by
  unfold mTrace at h
  split at h
  · cases h; exact ⟨_, rfl⟩
  · cases h

theorem step_consumeTrace {r t : String} {s s' : MState} {x : MRet}
    (h : step (.consumeTrace r t) s = some (x, s')) : ∃ tr, s' = { s with traces := dset s.traces (r, t) tr } := by
  simp only [step, Option.map_eq_some_iff] at h
  obtain ⟨y, h1, h2⟩ := h
  cases h2
  unfold mConsume at h1
  split at h1
  · split at h1
    · split at h1
      · cases h1; exact ⟨_, rfl⟩
      · cases h1
    · cases h1
  · cases h1

def MOp.isQuery : MOp → Bool
  | .getIndex _ | .getIter | .isCollecting | .isTraced _ _ | .dump => true
  | _ => false

theorem step_query {op : MOp} {s s' : MState} {x : MRet} (h : step op s = some (x, s'))
    (hq : op.isQuery = true) : s' = s := by
  cases op with
  | getIndex r =>
    simp only [step] at h
    split at h
    · cases hi : lineIdx s r with
      | none => rw [hi] at h; cases h
      | some i => rw [hi] at h; cases h; rfl
    · cases h
  | isTraced r t =>
    simp only [step] at h
    split at h
    · cases h; rfl
    · cases h
  | getIter | isCollecting | dump => cases h; rfl
  | _ => cases hq

theorem endOne_core {s s' : MState} {e : TKey × TraceSt} (h : endOne s e = some s') : SameCore s s' := by
  unfold endOne at h
  split at h
  · cases h
  · rename_i s1 hs1
    have hc : SameCore s s1 := by
      by_cases hf : e.2.file.isSome = true
      · rw [if_pos hf] at hs1; exact writeTrace_core hs1
      · rw [if_neg hf] at hs1; cases hs1; exact SameCore.refl s
    split at h
    · split at h
      · cases h; exact hc
      · cases h
    · cases h; exact hc

theorem mEnd_some {s s' : MState} (h : mEnd s = some s') :
    ∃ s1, s.traces.foldlM endOne s = some s1 ∧ SameCore s s1 ∧
      s' = { s1 with collecting := false, fiberLabel := [], iteration := none, lineOrder := none,
                     loopOrder := none, point := none, pfx := none, traces := [] } := by
  unfold mEnd at h
  cases hf : s.traces.foldlM endOne s with
  | none => rw [hf] at h; cases h
  | some s1 =>
    rw [hf] at h
    simp only [Option.map_some, Option.some.injEq] at h
    refine ⟨s1, rfl, ?_, h.symm⟩
    exact foldlM_preserve_mem endOne (fun x => SameCore s x) _ s s1
      (fun a b c _ hp hb => hp.trans (endOne_core hb)) (SameCore.refl s) hf

theorem matchOne_metrics {rank : String} {s s' : MState} {e : String × List String}
    (h : matchOne rank s e = some s') : s'.metrics = s.metrics := by
  unfold matchOne at h
  split at h
  · exact (startAll_core h).met
  · cases h; rfl

theorem mRegister_some {rank : String} {s s' : MState} (h : mRegister rank s = some s') :
    ∃ lo it lp pt, s.collecting = true ∧ s.lineOrder = some lo ∧ s.iteration = some it ∧
      s.loopOrder = some lp ∧ s.point = some pt ∧
      (if dhas lo rank then s' = s
       else ∃ s2, startAll (regState s rank lo it lp pt) rank = some s2 ∧
         s2.allRankMatches.foldlM (matchOne rank) s2 = some s') := by
  unfold mRegister at h
  split at h
  · rename_i hc
    split at h
    · rename_i lo it lp pt hlo hit hlp hpt
      refine ⟨lo, it, lp, pt, hc, hlo, hit, hlp, hpt, ?_⟩
      split at h
      · rename_i hd; rw [if_pos hd]; cases h; rfl
      · rename_i hd; rw [if_neg hd]
        split at h
        · cases h
        · rename_i s2 hs2; exact ⟨s2, hs2, h⟩
    · cases h
  · cases h

theorem mRegister_metrics {rank : String} {s s' : MState} (h : mRegister rank s = some s') :
    s'.metrics = s.metrics := by
  obtain ⟨lo, it, lp, pt, _, _, _, _, _, h'⟩ := mRegister_some h
  split at h'
  · rw [h']
  · obtain ⟨s2, hs2, hfold⟩ := h'
    rw [← show s2.metrics = s.metrics from (startAll_core hs2).met]
    exact foldlM_preserve_mem (matchOne rank) (fun x => x.metrics = s2.metrics) _ s2 s'
      (fun a b c _ hp hb => (matchOne_metrics hb).trans hp) rfl hfold

theorem pushRow_core {s s' : MState} {rank ty : String} {tr : TraceSt} {data : Row}
    (htr : dget s.traces (rank, ty) = some tr) (h : pushRow s rank ty tr data = some s') : SameCore s s' := by
  have hk : ∀ v : TraceSt, SameCore s (setTrace s (rank, ty) v) := fun v =>
    ⟨rfl, rfl, rfl, rfl, rfl, rfl, rfl,
      keys_dset_has _ _ _ (dhas_of_dget htr)⟩
  unfold pushRow at h
  split at h
  · split at h
    · exact (hk _).trans (writeTrace_core h)
    · cases h; exact hk _
  · cases h; exact hk _

theorem recordUse_core {s s' : MState} {rank ty : String} {pt : List Int} {i : Nat} {c pos : Int}
    {itn : Option (List Int)} (h : recordUse s rank ty pt i c pos itn = some s') : SameCore s s' := by
  unfold recordUse at h
  split at h
  · cases h; exact SameCore.refl s
  · rename_i tr htr
    split at h
    · cases h
    · exact pushRow_core htr h

theorem mAddUse_some {rank ty : String} {c pos : Int} {itn : Option (List Int)} {s s' : MState}
    (h : mAddUse rank c pos ty itn s = some s') :
    ∃ lo pt i, s.collecting = true ∧ known s rank = true ∧ s.lineOrder = some lo ∧ s.point = some pt ∧
      lineIdx s rank = some i ∧
      recordUse { s with point := some (newPoint lo pt rank i c) } rank ty (newPoint lo pt rank i c) i c pos itn = some s' := by
  unfold mAddUse at h
  split at h
  · rename_i hg
    simp only [Bool.and_eq_true] at hg
    split at h
    · rename_i lo pt i hlo hpt hi
      exact ⟨lo, pt, i, hg.1, hg.2, hlo, hpt, hi, h⟩
    · cases h
  · cases h

theorem lateSrc_metrics {rank src : String} {s s' : MState} (h : lateSrc rank s src = some s') :
    s'.metrics = s.metrics := by
  unfold lateSrc at h
  split at h
  · cases h
  · split at h
    · cases h; rfl
    · exact (startAll_core h).met

theorem lateRank_metrics {rank : String} {s s' : MState} (h : lateRank s rank = some s') :
    s'.metrics = s.metrics := by
  unfold lateRank at h
  split at h
  · cases h
  · split at h
    · exact foldlM_preserve_mem (lateSrc rank) (fun x => x.metrics = s.metrics) _ s s'
        (fun x y z _ hp hz => (lateSrc_metrics hz).trans hp) rfl h
    · cases h; rfl

theorem mMatchRanks_metrics {r1 r2 : String} {s s' : MState} (h : mMatchRanks r1 r2 s = some s') :
    s'.metrics = s.metrics := by
  unfold mMatchRanks at h
  simp only at h
  split at h
  · exact foldlM_preserve_mem lateRank (fun x => x.metrics = s.metrics) _ (matchClosure r1 r2 s).2 _
      (fun x y z _ hp hz => (lateRank_metrics hz).trans hp) rfl h
  · cases h; rfl

theorem step_metrics_other {op : MOp} {s s' : MState} {x : MRet} (h : step op s = some (x, s'))
    (hb : op.isBegin = false) (hc : ∀ l k n, op ≠ .incCount l k n) : s'.metrics = s.metrics := by
  cases op with
  | beginCollect p => cases hb
  | incCount l k n => exact absurd rfl (hc l k n)
  | endCollect =>
    obtain ⟨s2, _, hc2, rfl⟩ := mEnd_some (unit_step h)
    exact hc2.met
  | registerRank rank => exact mRegister_metrics (unit_step h)
  | addUse rank c pos ty itn =>
    obtain ⟨_, _, _, _, _, _, _, _, hr⟩ := mAddUse_some (unit_step h)
    exact (recordUse_core hr).met
  | incIter rank => obtain ⟨_, _, _, _, _, rfl⟩ := mIncIter_some (unit_step h); rfl
  | endIter rank => obtain ⟨_, _, _, _, _, rfl⟩ := mEndIter_some (unit_step h); rfl
  | getLabel rank => obtain ⟨_, rfl⟩ := step_getLabel h; rfl
  | matchRanks r1 r2 => exact mMatchRanks_metrics (unit_step h)
  | trace rank ty consumable => obtain ⟨_, rfl⟩ := mTrace_some (unit_step h); rfl
  | consumeTrace rank ty => obtain ⟨_, rfl⟩ := step_consumeTrace h; rfl
  | setNumCachedUses n =>
    simp only [step] at h
    split at h
    · cases h; rfl
    · cases h
  | associateShape rank => cases h; rfl
  | _ => rw [step_query h rfl]

theorem sumInc_traces (line metric : String) (keys : List TKey) :
    sumInc line metric (keys.map (fun k => MOp.trace k.1 k.2 false)) = 0 := by
  induction keys with
  | nil => rfl
  | cons k ks ih => exact ih

theorem sumInc_cons (line metric : String) (op : MOp) (ops : List MOp) :
    sumInc line metric (op :: ops) = sumInc line metric [op] + sumInc line metric ops := by
  cases op with
  | incCount l k n => simp only [sumInc, Int.add_zero]
  | _ => simp only [sumInc, Int.zero_add]

theorem sumInc_append (line metric : String) (a b : List MOp) :
    sumInc line metric (a ++ b) = sumInc line metric a + sumInc line metric b := by
  induction a with
  | nil => simp [sumInc]
  | cons op a ih =>
    rw [List.cons_append, sumInc_cons, ih, sumInc_cons line metric op a]; omega

theorem mIncCount_count {l k : String} {n : Int} {s s' : MState} (h : mIncCount l k n s = some s')
    (line metric : String) :
    count s' line metric = count s line metric + (if strip l == line && k == metric then n else 0) := by
  obtain ⟨m, _, hm, rfl⟩ := mIncCount_some h
  simp only [count, hm, Option.getD_some]
  by_cases hl : strip l = line
  · subst hl
    simp only [dget_dset_self, Option.getD_some, beq_self_eq_true, Bool.true_and]
    by_cases hk : k = metric
    · subst hk; simp [dget_dset_self]
    · have : (k == metric) = false := by simpa using hk
      rw [dget_dset_ne _ _ (Ne.symm hk)]; simp [this]
  · have : (strip l == line) = false := by simpa using hl
    rw [dget_dset_ne _ _ (Ne.symm hl)]; simp [this]

theorem step_count {op : MOp} {s s' : MState} {x : MRet} (h : step op s = some (x, s'))
    (hb : op.isBegin = false) (line metric : String) :
    count s' line metric = count s line metric + sumInc line metric [op] := by
  cases op with
  | incCount l k n =>
    rw [mIncCount_count (unit_step h)]
    simp only [sumInc, Int.add_zero]
  | _ =>
    unfold count
    rw [step_metrics_other h hb (fun _ _ _ => nofun)]
    exact (Int.add_zero _).symm

theorem runOps_cons {op : MOp} {ops : List MOp} {s s' : MState} {rs : List MRet} :
    runOps (op :: ops) s = some (rs, s') ↔
      ∃ r s1 rs', step op s = some (r, s1) ∧ runOps ops s1 = some (rs', s') ∧ rs = r :: rs' := by
  simp only [runOps, Option.bind_eq_bind, Option.bind_eq_some_iff, Option.pure_def, Option.some.injEq,
    Prod.mk.injEq, Prod.exists]
  constructor
  · rintro ⟨r, s1, h1, rs', s2, h2, rfl, rfl⟩; exact ⟨r, s1, rs', h1, h2, rfl⟩
  · rintro ⟨r, s1, rs', h1, h2, rfl⟩; exact ⟨r, s1, h1, rs', s', h2, rfl, rfl⟩

theorem runOps_append {a b : List MOp} {s s' : MState} {rs : List MRet} :
    runOps (a ++ b) s = some (rs, s') ↔
      ∃ s1 ra rb, runOps a s = some (ra, s1) ∧ runOps b s1 = some (rb, s') ∧ rs = ra ++ rb := by
  induction a generalizing s rs with
  | nil =>
    constructor
    · intro h; exact ⟨s, [], rs, rfl, h, rfl⟩
    · rintro ⟨s1, ra, rb, h1, h2, rfl⟩; cases h1; exact h2
  | cons op a ih =>
    rw [List.cons_append, runOps_cons]
    constructor
    · rintro ⟨r, s1, rs', h1, h2, rfl⟩
      obtain ⟨s2, ra, rb, h3, h4, rfl⟩ := ih.1 h2
      exact ⟨s2, r :: ra, rb, runOps_cons.2 ⟨r, s1, ra, h1, h3, rfl⟩, h4, rfl⟩
    · rintro ⟨s2, ra, rb, h1, h2, rfl⟩
      obtain ⟨r, s1, ra', h3, h4, rfl⟩ := runOps_cons.1 h1
      exact ⟨r, s1, ra' ++ rb, h3, ih.2 ⟨s2, ra', rb, h4, h2, rfl⟩, rfl⟩

theorem runOps_count {ops : List MOp} {s s' : MState} {rs : List MRet}
    (h : runOps ops s = some (rs, s')) (hb : ∀ op ∈ ops, op.isBegin = false) (line metric : String) :
    count s' line metric = count s line metric + sumInc line metric ops := by
  induction ops generalizing s rs with
  | nil => cases h; simp [sumInc]
  | cons op ops ih =>
    obtain ⟨r, s1, rs', h1, h2, _⟩ := runOps_cons.1 h
    rw [ih h2 (fun o ho => hb o (List.mem_cons_of_mem _ ho)),
      step_count h1 (hb op List.mem_cons_self), sumInc_cons line metric op ops]
    omega

end Ft.C15
