/-
  C06 helper lemmas: the tree `splitUniform` produces (halo 0, absolute coordinates; FtModel.Split /
  C08) has value at (.., x1, x0, ..) = value at (.., x0, ..) if x1 is the tile of x0, and 0 elsewhere.
-/
import FtProofs.Lemmas.KernelCoiter
import FtProofs.C08
namespace Ft.C06
open Ft StrictTotal

/-- `tileOf step c` is the multiple `P` of `step` with `P ≤ c < P + step` -/
theorem tileOf_eq_iff (step P c : Int) (hs : 0 < step) :
    P = tileOf step c ↔ step ∣ P ∧ P ≤ c ∧ c < P + step := by
  unfold tileOf
  constructor
  · rintro rfl
    have h1 := Int.emod_nonneg c (b := step) (by omega)
    have h2 := Int.emod_lt_of_pos c hs
    have h3 := Int.emod_def c step
    rw [Int.mul_comm] at h3
    exact ⟨⟨c / step, Int.mul_comm ..⟩, by omega, by omega⟩
  · rintro ⟨⟨k, rfl⟩, h1, h2⟩
    have hne : step ≠ 0 := by omega
    have : c = (c - step * k) + k * step := by rw [Int.mul_comm k step]; omega
    rw [this, Int.add_mul_ediv_right _ _ hne, Int.ediv_eq_zero_of_lt (by omega) (by omega)]
    rw [Int.zero_add, Int.mul_comm]

section
variable (step as ae : Int)

/-- the presented elements of `f` that fall into the partition starting at `P` -/
def bucket (d : Nat) (f : Tree Int Int (d + 1)) (P : Int) : List (Int × Tree Int Int d) :=
  (present (0 : Int) d f).filter (fun e => uMemb step 0 0 as ae P e.1)

theorem mem_bucket {d : Nat} {f : Tree Int Int (d + 1)} {P : Int} {x : Int × Tree Int Int d}
    (hx : x ∈ bucket step as ae d f P) :
    x ∈ (show List (Int × Tree Int Int d) from f) ∧ uMemb step 0 0 as ae P x.1 = true :=
  ⟨(mem_present.1 (List.mem_filter.1 hx).1).1, (List.mem_filter.1 hx).2⟩

theorem val_bucket (d : Nat) (f : Tree Int Int (d + 1)) (hw : Ft.WF (d + 1) f) (P x0 : Int) (q : List Int)
    (hq : q.length = d) :
    val (0 : Int) (d + 1) (show Tree Int Int (d + 1) from bucket step as ae d f P) (x0 :: q) =
      if uMemb step 0 0 as ae P x0 = true then val (0 : Int) (d + 1) f (x0 :: q) else 0 := by
  simp only [val]
  unfold bucket
  rw [lookup_filter_of_sorted (present_sorted hw.sorted), lookup_present f hw.sorted]
  cases hf : lookup (show List (Int × Tree Int Int d) from f) x0 with
  | none => simp
  | some s =>
    by_cases hem : isEmpty (0 : Int) d s = true
    · -- an empty element is not presented, and reads as 0 anyway
      simp [hem, val_of_isEmpty s (hw.sub _ (mem_of_lookup_eq_some hf)) hem q hq]
    · by_cases hu : uMemb step 0 0 as ae P x0 = true <;> simp [hem, hu]

theorem cand_iff (hs : 0 < step) {P c : Int} (hc : as ≤ c ∧ c < ae) :
    (P ∈ uCands step as ae ∧ uMemb step 0 0 as ae P c = true) ↔ P = tileOf step c := by
  rw [tileOf_eq_iff step P c hs]
  simp only [mem_uCands step as ae hs, uMemb_iff]
  constructor
  · rintro ⟨⟨hd, _, _⟩, h⟩
    exact ⟨hd, by omega, by omega⟩
  · rintro ⟨hd, h1, h2⟩
    exact ⟨⟨hd, by omega, by omega⟩, by omega⟩

theorem splitAt_succ (d k : Nat) (t : Tree Int Int (d + 1 + (k + 1))) (r : Tree Int Int (d + 2 + (k + 1)))
    (hw : Ft.WF (d + 1 + (k + 1)) t)
    (hr : splitAt { op := .uniform step, act := some (as, ae) } (0 : Int) d (k + 1) t = some r) :
    Sorted (show List (Int × Tree Int Int (d + 2 + k)) from r) ∧
    (∀ c, lookup (show List (Int × Tree Int Int (d + 2 + k)) from r) c =
      (lookup (show List (Int × Tree Int Int (d + 1 + k)) from t) c).bind
        (splitAt { op := .uniform step, act := some (as, ae) } (0 : Int) d k)) ∧
    (∀ e ∈ (show List (Int × Tree Int Int (d + 1 + k)) from t),
      splitAt { op := .uniform step, act := some (as, ae) } (0 : Int) d k e.2 ≠ none) := by
  have hm := splitAt_succ_some hr
  refine ⟨?_, fun c => lookup_mapM? _ c _ _ hm, mapM?_some_of_mem _ _ _ hm⟩
  have h0 : Sorted (show List (Int × Tree Int Int (d + 1 + k)) from t) := hw.sorted
  unfold Sorted at h0 ⊢
  have h1 : ((show List (Int × Tree Int Int (d + 1 + k)) from t).map (·.1)).Pairwise (· < ·) := by
    rw [List.pairwise_map]; exact h0
  rw [← depth_coords _ _ d k t r hr, List.pairwise_map] at h1
  exact h1

variable (hs : 0 < step) (hact : as < ae)
include hs hact

/-- the split of one fiber, as an association list: ascending, one element for every partition
    start with a non-empty bucket -/
theorem splitFiber_list (d : Nat) (f : Tree Int Int (d + 1)) (hw : Ft.WF (d + 1) f) (r : Tree Int Int (d + 2))
    (hr : splitFiber { op := .uniform step, act := some (as, ae) } (0 : Int) d f = some r) :
    Sorted (show List (Int × Tree Int Int (d + 1)) from r) ∧
    ∀ e, e ∈ (show List (Int × Tree Int Int (d + 1)) from r) ↔
      ∃ P, P ∈ uCands step as ae ∧ bucket step as ae d f P ≠ [] ∧
        e = (P, (show Tree Int Int (d + 1) from bucket step as ae d f P)) := by
  have hspec := uniform_spec step 0 0 as ae false (present (0 : Int) d f) hs hact (Int.le_refl 0) (Int.le_refl 0)
    (present_sorted hw.sorted)
  have hr' : r = partsTree d (uSpec step 0 0 as ae false (present (0 : Int) d f)) := by
    unfold splitFiber splitFiberParts effActive splitIterOn presentFmt at hr
    simp only [Bool.false_eq_true, if_false] at hr
    rw [hspec] at hr
    simpa using hr.symm
  subst hr'
  constructor
  · show Sorted (List.map _ _)
    unfold Sorted
    rw [List.pairwise_map]
    have := upper_ascending step 0 0 as ae false (present (0 : Int) d f) hs
    rw [List.pairwise_map] at this
    exact this
  · intro e
    show e ∈ List.map _ _ ↔ _
    rw [List.mem_map]
    constructor
    · rintro ⟨p, hp, rfl⟩
      obtain ⟨P, hP, hne, rfl⟩ := (mem_uSpec step 0 0 as ae false _ _).1 hp
      exact ⟨P, hP, hne, rfl⟩
    · rintro ⟨P, hP, hne, rfl⟩
      exact ⟨_, (mem_uSpec step 0 0 as ae false _ _).2 ⟨P, hP, hne, rfl⟩, rfl⟩

theorem splitFiber_val (d : Nat) (f : Tree Int Int (d + 1)) (hw : Ft.WF (d + 1) f)
    (hin : ∀ e ∈ (show List (Int × Tree Int Int d) from f), as ≤ e.1 ∧ e.1 < ae)
    (r : Tree Int Int (d + 2))
    (hr : splitFiber { op := .uniform step, act := some (as, ae) } (0 : Int) d f = some r)
    (x1 x0 : Int) (q : List Int) (hq : q.length = d) :
    val (0 : Int) (d + 2) r (x1 :: x0 :: q) =
      if x1 = tileOf step x0 then val (0 : Int) (d + 1) f (x0 :: q) else 0 := by
  obtain ⟨hrs, hmem⟩ := splitFiber_list step as ae hs hact d f hw r hr
  -- below a partition start the split holds its bucket (nothing, if the bucket is empty)
  have hup : val (0 : Int) (d + 2) r (x1 :: x0 :: q) =
      if x1 ∈ uCands step as ae then
        val (0 : Int) (d + 1) (show Tree Int Int (d + 1) from bucket step as ae d f x1) (x0 :: q)
      else 0 := by
    cases hl : lookup (show List (Int × Tree Int Int (d + 1)) from r) x1 with
    | some s =>
      obtain ⟨P, hP, _, e⟩ := (hmem _).1 (mem_of_lookup_eq_some hl)
      obtain ⟨rfl, rfl⟩ := Prod.mk.inj e
      rw [if_pos hP, val_cons_some (0 : Int) (d + 1) r x1 _ _ hl]
    | none =>
      rw [val_cons_none (0 : Int) (d + 1) r x1 _ hl]
      by_cases hP : x1 ∈ uCands step as ae
      · have hb : bucket step as ae d f x1 = [] := by
          apply Classical.byContradiction
          intro hne
          have := lookup_of_sorted_mem hrs ((hmem _).2 ⟨x1, hP, hne, rfl⟩)
          rw [hl] at this; cases this
        rw [if_pos hP, hb]; rfl
      · rw [if_neg hP]
  rw [hup, val_bucket step as ae d f hw x1 x0 q hq]
  cases hf : lookup (show List (Int × Tree Int Int d) from f) x0 with
  | none => rw [val_cons_none (0 : Int) d f x0 q hf]; simp
  | some s0 =>
    have hx0 := hin _ (mem_of_lookup_eq_some hf)
    by_cases hx : x1 = tileOf step x0
    · obtain ⟨hP, hu⟩ := (cand_iff step as ae hs hx0).2 hx
      rw [if_pos hx, if_pos hP, if_pos hu]
    · rw [if_neg hx]
      by_cases hP : x1 ∈ uCands step as ae
      · rw [if_pos hP, if_neg (fun hu => hx ((cand_iff step as ae hs hx0).1 ⟨hP, hu⟩))]
      · rw [if_neg hP]

theorem splitFiber_ok (U : List Int) (hUr : ∀ x ∈ U, as ≤ x ∧ x < ae) (htile : ∀ x ∈ U, tileOf step x ∈ U)
    (d : Nat) (f : Tree Int Int (d + 1)) (hw : Ft.WF (d + 1) f) (hin : coordsInB U (d + 1) f = true)
    (r : Tree Int Int (d + 2))
    (hr : splitFiber { op := .uniform step, act := some (as, ae) } (0 : Int) d f = some r) :
    Ft.WF (d + 2) r ∧ coordsInB U (d + 2) r = true := by
  obtain ⟨hrs, hmem⟩ := splitFiber_list step as ae hs hact d f hw r hr
  constructor
  · refine ⟨hrs, ?_⟩
    intro e he
    obtain ⟨P, _, _, rfl⟩ := (hmem e).1 he
    exact ⟨(present_sorted hw.sorted).filter _, fun x hx => hw.sub x (mem_bucket step as ae hx).1⟩
  · show (show List (Int × Tree Int Int (d + 1)) from r).all _ = true
    rw [List.all_eq_true]
    intro e he
    obtain ⟨P, hP, hne, rfl⟩ := (hmem e).1 he
    rw [Bool.and_eq_true, List.contains_iff_mem]
    constructor
    · -- the upper coordinate is the tile of any element of its bucket
      cases hb : bucket step as ae d f P with
      | nil => exact absurd hb hne
      | cons x _ =>
        obtain ⟨hxf, hxm⟩ := mem_bucket step as ae (hb ▸ List.mem_cons_self ..)
        have hxU := (coordsIn_sub hin hxf).1
        have hPt := (cand_iff step as ae hs (hUr _ hxU)).1 ⟨hP, hxm⟩
        show P ∈ U
        rw [hPt]
        exact htile _ hxU
    · show (bucket step as ae d f P).all _ = true
      rw [List.all_eq_true]
      intro x hx
      obtain ⟨h1, h2⟩ := coordsIn_sub hin (mem_bucket step as ae hx).1
      rw [Bool.and_eq_true, List.contains_iff_mem]
      exact ⟨h1, h2⟩

theorem splitAt_val (U : List Int) (hUr : ∀ x ∈ U, as ≤ x ∧ x < ae) (d : Nat) :
    ∀ (k : Nat) (t : Tree Int Int (d + 1 + k)) (r : Tree Int Int (d + 2 + k)),
      Ft.WF (d + 1 + k) t → coordsInB U (d + 1 + k) t = true →
      splitAt { op := .uniform step, act := some (as, ae) } (0 : Int) d k t = some r →
      ∀ (p : List Int), p.length = k → ∀ (x1 x0 : Int) (q : List Int), q.length = d →
        val (0 : Int) (d + 2 + k) r (p ++ x1 :: x0 :: q) =
          if x1 = tileOf step x0 then val (0 : Int) (d + 1 + k) t (p ++ x0 :: q) else 0 := by
  intro k
  induction k with
  | zero =>
    intro t r hw hin hr p hp x1 x0 q hq
    have : p = [] := List.length_eq_zero_iff.1 hp
    subst this
    exact splitFiber_val step as ae hs hact d t hw (fun e he => hUr _ (coordsIn_sub hin he).1) r hr x1 x0 q hq
  | succ k ih =>
    intro t r hw hin hr p hp x1 x0 q hq
    cases p with
    | nil => cases hp
    | cons c p' =>
      obtain ⟨_, hl, hsome⟩ := splitAt_succ step as ae d k t r hw hr
      simp only [List.cons_append, val]
      rw [hl]
      cases hlk : lookup (show List (Int × Tree Int Int (d + 1 + k)) from t) c with
      | none => simp
      | some s =>
        have hmem := mem_of_lookup_eq_some hlk
        cases hs' : splitAt { op := .uniform step, act := some (as, ae) } (0 : Int) d k s with
        | none => exact absurd hs' (hsome _ hmem)
        | some r' =>
          simp only [Option.bind_some, hs']
          exact ih s r' (hw.sub _ hmem) (coordsIn_sub hin hmem).2 hs' p' (by simpa using hp) x1 x0 q hq

theorem splitAt_ok (U : List Int) (hUr : ∀ x ∈ U, as ≤ x ∧ x < ae) (htile : ∀ x ∈ U, tileOf step x ∈ U)
    (d : Nat) : ∀ (k : Nat) (t : Tree Int Int (d + 1 + k)) (r : Tree Int Int (d + 2 + k)),
      Ft.WF (d + 1 + k) t → coordsInB U (d + 1 + k) t = true →
      splitAt { op := .uniform step, act := some (as, ae) } (0 : Int) d k t = some r →
      Ft.WF (d + 2 + k) r ∧ coordsInB U (d + 2 + k) r = true := by
  intro k
  induction k with
  | zero => exact fun t r hw hin hr => splitFiber_ok step as ae hs hact U hUr htile d t hw hin r hr
  | succ k ih =>
    intro t r hw hin hr
    obtain ⟨hsorted, hl, _⟩ := splitAt_succ step as ae d k t r hw hr
    -- every element of the result is the split of the element of `t` with the same coordinate
    have hsub : ∀ e ∈ (show List (Int × Tree Int Int (d + 2 + k)) from r), ∃ s,
        (e.1, s) ∈ (show List (Int × Tree Int Int (d + 1 + k)) from t) ∧
        splitAt { op := .uniform step, act := some (as, ae) } (0 : Int) d k s = some e.2 := by
      intro e he
      have h1 := lookup_of_sorted_mem hsorted he
      rw [hl] at h1
      cases hlk : lookup (show List (Int × Tree Int Int (d + 1 + k)) from t) e.1 with
      | none => rw [hlk] at h1; cases h1
      | some s =>
        rw [hlk] at h1
        exact ⟨s, mem_of_lookup_eq_some hlk, h1⟩
    constructor
    · refine ⟨hsorted, ?_⟩
      intro e he
      obtain ⟨s, hs1, hs2⟩ := hsub e he
      exact (ih s e.2 (hw.sub _ hs1) (coordsIn_sub hin hs1).2 hs2).1
    · show (show List (Int × Tree Int Int (d + 2 + k)) from r).all _ = true
      rw [List.all_eq_true]
      intro e he
      obtain ⟨s, hs1, hs2⟩ := hsub e he
      rw [Bool.and_eq_true, List.contains_iff_mem]
      exact ⟨(coordsIn_sub hin hs1).1,
        (ih s e.2 (hw.sub _ hs1) (coordsIn_sub hin hs1).2 hs2).2⟩

end

section
variable {κ : Type}

theorem wf_ofTree [LT κ] (ranks : List Nat) : ∀ (d : Nat) (h : ranks.length = d) (t : Tree κ Int d),
    Ft.WF d t → Ft.WF (Cur.ofTree ranks d h t).ranks.length (Cur.ofTree ranks d h t).t := by
  intro d h
  subst h
  intro t ht
  exact ht

theorem in_ofTree [DecidableEq κ] [LT κ] [DecidableRel (α := κ) (· < ·)] (U : List κ) (ranks : List Nat) :
    ∀ (d : Nat) (h : ranks.length = d) (t : Tree κ Int d),
    coordsInB U d t = true → coordsInB U (Cur.ofTree ranks d h t).ranks.length (Cur.ofTree ranks d h t).t = true := by
  intro d h
  subst h
  intro t ht
  exact ht

end

end Ft.C06
