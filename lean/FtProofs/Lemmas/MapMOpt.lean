/-
  Equations of `mapM?` (FtModel/Split.lean), the list traversal with an `Option`-valued function.
-/
import FtModel.Split
namespace Ft

theorem mapM?_cons {α β : Type} (g : α → Option β) (a : α) (r : List α) :
    mapM? g (a :: r) = (g a).bind (fun b => (mapM? g r).map (b :: ·)) := by
  rw [mapM?]
  cases g a
  · rfl
  · rfl

theorem mapM?_cons_eq_some {α β : Type} {g : α → Option β} {a : α} {r : List α} {b : β} {bs : List β}
    (h : g a = some b) (hr : mapM? g r = some bs) : mapM? g (a :: r) = some (b :: bs) := by
  rw [mapM?_cons, h, hr]
  rfl

/-- a traversal of `a :: t` succeeds exactly when it does on `a` and on `t` -/
theorem mapM?_cons_eq_some_iff {α β : Type} {g : α → Option β} {a : α} {t : List α} {r : List β} :
    mapM? g (a :: t) = some r ↔ ∃ b r', g a = some b ∧ mapM? g t = some r' ∧ r = b :: r' := by
  constructor
  · intro h
    rw [mapM?_cons] at h
    obtain ⟨b, hb, h⟩ := Option.bind_eq_some_iff.1 h
    obtain ⟨r', hr', e⟩ := Option.map_eq_some_iff.1 h
    exact ⟨b, r', hb, hr', e.symm⟩
  · rintro ⟨b, r', hb, hr', rfl⟩
    exact mapM?_cons_eq_some hb hr'

end Ft
