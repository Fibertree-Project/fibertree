/-
  C06 helper lemmas: the model of `Tensor.swizzleRanks` (flatten the swizzled prefix,
  permute the coordinate tuples, sort, regroup) denotes the same tensor with its ranks permuted.
-/
import FtProofs.Lemmas.KernelRun
import FtProofs.Lemmas.KernelContent
set_option linter.unusedSectionVars false
namespace Ft.C06
open Ft StrictTotal

section
variable {κ : Type} [LT κ] [DecidableRel (α := κ) (· < ·)] [DecidableEq κ] [StrictTotal κ]

variable {π : Type}

theorem insLex_perm (x : List κ × π) (l : List (List κ × π)) : (insLex x l).Perm (x :: l) := by
  induction l with
  | nil => exact List.Perm.refl _
  | cons y r ih =>
    unfold insLex
    by_cases h : lexLt y.1 x.1 = true
    · rw [if_pos h]
      exact (ih.cons y).trans (List.Perm.swap x y r)
    · rw [if_neg h]

theorem sortLex_perm (l : List (List κ × π)) : (sortLex l).Perm l := by
  induction l with
  | nil => exact List.Perm.refl _
  | cons x r ih => exact (insLex_perm x (sortLex r)).trans (ih.cons x)

theorem insLex_sorted (x : List κ × π) (l : List (List κ × π)) (hs : LexSorted l) (hne : ∀ y ∈ l, y.1 ≠ x.1) :
    LexSorted (insLex x l) := by
  induction l with
  | nil => exact List.pairwise_singleton _ _
  | cons y r ih =>
    unfold insLex
    have hs' := List.pairwise_cons.1 hs
    by_cases h : lexLt y.1 x.1 = true
    · rw [if_pos h]
      apply List.pairwise_cons.2 ⟨?_, ih hs'.2 (fun z hz => hne z (List.mem_cons_of_mem _ hz))⟩
      intro z hz
      rcases List.mem_cons.1 ((insLex_perm x r).mem_iff.1 hz) with rfl | hz
      · exact h
      · exact hs'.1 z hz
    · rw [if_neg h]
      have hxy : lexLt x.1 y.1 = true :=
        (lexLt_total x.1 y.1 (fun e => hne y (List.mem_cons_self ..) e.symm)).resolve_right h
      apply List.pairwise_cons.2 ⟨?_, hs⟩
      intro z hz
      rcases List.mem_cons.1 hz with rfl | hz
      · exact hxy
      · exact lexLt_trans hxy (hs'.1 z hz)

theorem sortLex_sorted (l : List (List κ × π)) (hd : KeysDistinct l) : LexSorted (sortLex l) := by
  induction l with
  | nil => exact List.Pairwise.nil
  | cons x r ih =>
    have hd' := List.pairwise_cons.1 hd
    exact insLex_sorted x _ (ih hd'.2) (fun y hy e => hd'.1 y ((sortLex_perm r).mem_iff.1 hy) e.symm)

theorem distinct_functional {l : List (List κ × π)} (h : KeysDistinct l) {p : List κ} {x y : π}
    (hx : (p, x) ∈ l) (hy : (p, y) ∈ l) : x = y := by
  induction l with
  | nil => cases hx
  | cons a r ih =>
    have h' := List.pairwise_cons.1 h
    rcases List.mem_cons.1 hx with hxa | hxr
    · rcases List.mem_cons.1 hy with hya | hyr
      · exact (Prod.mk.inj (hxa.trans hya.symm)).2
      · subst hxa; exact (h'.1 (p, y) hyr rfl).elim
    · rcases List.mem_cons.1 hy with hya | hyr
      · subst hya; exact (h'.1 (p, x) hxr rfl).elim
      · exact ih h'.2 hxr hyr

end

section
variable {κ : Type}

theorem permute_length (guide : List Nat) (p : List κ) (h : ∀ g ∈ guide, g < p.length) :
    (permute guide p).length = guide.length := by
  induction guide with
  | nil => rfl
  | cons g gs ih =>
    have := ih (fun x hx => h x (List.mem_cons_of_mem _ hx))
    unfold permute at this ⊢
    rw [List.filterMap_cons, List.getElem?_eq_getElem (h g (List.mem_cons_self ..)), List.length_cons,
      List.length_cons, this]

theorem permute_getElem_eq (guide : List Nat) (p p' : List κ)
    (h : ∀ g ∈ guide, g < p.length) (h' : ∀ g ∈ guide, g < p'.length)
    (he : permute guide p = permute guide p') : ∀ g ∈ guide, p[g]? = p'[g]? := by
  induction guide with
  | nil => exact nofun
  | cons g gs ih =>
    have hg : g < p.length := h g (List.mem_cons_self ..)
    have hg' : g < p'.length := h' g (List.mem_cons_self ..)
    unfold permute at he
    rw [List.filterMap_cons, List.filterMap_cons, List.getElem?_eq_getElem hg, List.getElem?_eq_getElem hg'] at he
    simp only [List.cons.injEq] at he
    intro x hx
    rcases List.mem_cons.1 hx with rfl | hx
    · rw [List.getElem?_eq_getElem hg, List.getElem?_eq_getElem hg', he.1]
    · exact ih (fun y hy => h y (List.mem_cons_of_mem _ hy)) (fun y hy => h' y (List.mem_cons_of_mem _ hy)) he.2 x hx

theorem permute_inj (s : Nat) (guide : List Nat) (hg : guide.Perm (List.range s)) (p p' : List κ)
    (hp : p.length = s) (hp' : p'.length = s) (he : permute guide p = permute guide p') : p = p' := by
  have hr : ∀ g ∈ guide, g < s := fun g hgm => List.mem_range.1 (hg.mem_iff.1 hgm)
  have := permute_getElem_eq guide p p' (fun g h => hp ▸ hr g h) (fun g h => hp' ▸ hr g h) he
  apply List.ext_getElem?
  intro i
  by_cases hi : i < s
  · exact this i (hg.mem_iff.2 (List.mem_range.2 hi))
  · rw [List.getElem?_eq_none (by omega), List.getElem?_eq_none (by omega)]

theorem permute_map {β : Type} (guide : List Nat) (l : List κ) (f : κ → β) :
    permute guide (l.map f) = (permute guide l).map f := by
  unfold permute
  rw [List.map_filterMap]
  congr 1
  funext g
  rw [List.getElem?_map]

theorem mem_permute {guide : List Nat} {p : List κ} {c : κ} (h : c ∈ permute guide p) : c ∈ p := by
  unfold permute at h
  obtain ⟨g, _, hg⟩ := List.mem_filterMap.1 h
  exact List.mem_of_getElem? hg

end

section
variable {κ : Type} [LT κ] [DecidableRel (α := κ) (· < ·)] [DecidableEq κ] [StrictTotal κ]

section flatten
variable {ν : Type} (dflt : ν) (r : Nat)

theorem mem_flattenN_succ (s : Nat) (t : Tree κ ν (r + (s + 1))) (pv : List κ × Tree κ ν r) :
    pv ∈ flattenN r (s + 1) t ↔
      ∃ e ∈ (show List (κ × Tree κ ν (r + s)) from t), ∃ pv' ∈ flattenN r s e.2, pv = (e.1 :: pv'.1, pv'.2) := by
  show pv ∈ List.flatMap _ _ ↔ _
  rw [List.mem_flatMap]
  constructor
  · rintro ⟨e, he, h⟩
    obtain ⟨pv', hpv', rfl⟩ := List.mem_map.1 h
    exact ⟨e, he, pv', hpv', rfl⟩
  · rintro ⟨e, he, pv', hpv', rfl⟩
    exact ⟨e, he, List.mem_map.2 ⟨pv', hpv', rfl⟩⟩

theorem flatten_mem (s : Nat) : ∀ (t : Tree κ ν (r + s)), Ft.WF (r + s) t → ∀ pv ∈ flattenN r s t,
    pv.1.length = s ∧ Ft.WF r pv.2 ∧ ∀ (dv : ν) q, val dv (r + s) t (pv.1 ++ q) = val dv r pv.2 q := by
  induction s with
  | zero =>
    intro t hw pv h
    rw [show pv = ([], t) from List.mem_singleton.1 h]
    exact ⟨rfl, hw, fun _ _ => rfl⟩
  | succ s ih =>
    intro t hw pv h
    obtain ⟨e, he, pv', hpv', rfl⟩ := (mem_flattenN_succ r s t pv).1 h
    obtain ⟨h1, h2, h3⟩ := ih e.2 (hw.sub e he) pv' hpv'
    refine ⟨congrArg Nat.succ h1, h2, fun dv q => ?_⟩
    show val dv (r + s + 1) t (e.1 :: (pv'.1 ++ q)) = _
    rw [val_cons_some dv (r + s) t e.1 _ e.2 (lookup_of_sorted_mem hw.sorted he)]
    exact h3 dv q

theorem flatten_val_none (s : Nat) : ∀ (t : Tree κ ν (r + s)), Ft.WF (r + s) t →
    ∀ p : List κ, p.length = s → (∀ x, (p, x) ∉ flattenN r s t) → ∀ q, val dflt (r + s) t (p ++ q) = dflt := by
  induction s with
  | zero =>
    intro t _ p hp hn q
    have : p = [] := List.length_eq_zero_iff.1 hp
    subst this
    exact absurd (List.mem_singleton.2 rfl) (hn t)
  | succ s ih =>
    intro t hw p hp hn q
    cases p with
    | nil => cases hp
    | cons c p' =>
      show val dflt (r + s + 1) t (c :: (p' ++ q)) = dflt
      cases hl : lookup (show List (κ × Tree κ ν (r + s)) from t) c with
      | none => exact val_cons_none dflt (r + s) t c _ hl
      | some sub =>
        rw [val_cons_some dflt (r + s) t c _ sub hl]
        have hm := mem_of_lookup_eq_some hl
        apply ih sub (hw.sub _ hm) p' (by simpa using hp)
        intro x hx
        exact hn x ((mem_flattenN_succ r s t _).2 ⟨(c, sub), hm, (p', x), hx, rfl⟩)

theorem flatten_distinct (s : Nat) : ∀ (t : Tree κ ν (r + s)), Ft.WF (r + s) t → KeysDistinct (flattenN r s t) := by
  induction s with
  | zero => exact fun t _ => List.pairwise_singleton _ _
  | succ s ih =>
    intro t hw
    show List.Pairwise _ (List.flatMap _ _)
    rw [List.pairwise_flatMap]
    constructor
    · intro e he
      rw [List.pairwise_map]
      exact (ih e.2 (hw.sub e he)).imp (fun {a b} hab e' => hab (List.cons.inj e').2)
    · have hs : Sorted (show List (κ × Tree κ ν (r + s)) from t) := hw.sorted
      exact hs.imp (fun {a b} hab x hx y hy => by
        obtain ⟨x', _, rfl⟩ := List.mem_map.1 hx
        obtain ⟨y', _, rfl⟩ := List.mem_map.1 hy
        exact fun e' => lt_ne hab (List.cons.inj e').1)

end flatten

section group
variable {π : Type}

theorem groupHead_cons (c : κ) (p : List κ) (x : π) (rest : List (List κ × π)) :
    groupHead ((c :: p, x) :: rest) =
      match groupHead rest with
      | (c', g) :: gs => if c = c' then (c, (p, x) :: g) :: gs else (c, [(p, x)]) :: (c', g) :: gs
      | [] => [(c, [(p, x)])] := rfl

/-- a path joins the first group of the paths after it when that group has its first coordinate -/
theorem groupHead_cons_join {c : κ} (p : List κ) (x : π) {rest : List (List κ × π)} {g gs}
    (h : groupHead rest = (c, g) :: gs) : groupHead ((c :: p, x) :: rest) = (c, (p, x) :: g) :: gs := by
  rw [groupHead_cons, h]; exact if_pos rfl

/-- … and opens a group of its own otherwise -/
theorem groupHead_cons_new {c : κ} (p : List κ) (x : π) {rest : List (List κ × π)}
    (h : ∀ g gs, groupHead rest ≠ (c, g) :: gs) :
    groupHead ((c :: p, x) :: rest) = (c, [(p, x)]) :: groupHead rest := by
  rw [groupHead_cons]
  cases hG : groupHead rest with
  | nil => rfl
  | cons g0 gs =>
    obtain ⟨c', g⟩ := g0
    exact if_neg (fun (e : c = c') => h g gs (e ▸ hG))

/-- what the regrouping of a lexicographically sorted list of non-empty paths yields -/
structure GroupOK (L : List (List κ × π)) (G : List (κ × List (List κ × π))) : Prop where
  sorted : Sorted G
  inner : ∀ g ∈ G, LexSorted g.2
  nonempty : ∀ g ∈ G, g.2 ≠ []
  mem : ∀ c p x, (c :: p, x) ∈ L ↔ ∃ g, (c, g) ∈ G ∧ (p, x) ∈ g
  head : ∀ c g gs, G = (c, g) :: gs → ∃ p x rest, L = (c :: p, x) :: rest

/-- regrouping loses no path and invents none (sorted or not) -/
theorem mem_groupHead (L : List (List κ × π)) (c : κ) (p : List κ) (x : π) :
    (c :: p, x) ∈ L ↔ ∃ g, (c, g) ∈ groupHead L ∧ (p, x) ∈ g := by
  induction L with
  | nil => exact ⟨nofun, fun ⟨_, h, _⟩ => nomatch h⟩
  | cons a rest ih =>
    obtain ⟨pk, y⟩ := a
    cases pk with
    | nil =>
      show _ ↔ ∃ g, (c, g) ∈ groupHead rest ∧ _
      rw [← ih, List.mem_cons]
      exact ⟨fun h => h.resolve_left nofun, Or.inr⟩
    | cons c0 p0 =>
      rw [List.mem_cons, ih]
      by_cases hj : ∃ g' gs, groupHead rest = (c0, g') :: gs
      · obtain ⟨g', gs, hG⟩ := hj
        rw [groupHead_cons_join p0 y hG, hG]
        constructor
        · rintro (e | ⟨g, hg, hpx⟩)
          · cases e; exact ⟨_, List.mem_cons_self .., List.mem_cons_self ..⟩
          · rcases List.mem_cons.1 hg with e | hg
            · cases e; exact ⟨_, List.mem_cons_self .., List.mem_cons_of_mem _ hpx⟩
            · exact ⟨g, List.mem_cons_of_mem _ hg, hpx⟩
        · rintro ⟨g, hg, hpx⟩
          rcases List.mem_cons.1 hg with e | hg
          · cases e
            rcases List.mem_cons.1 hpx with e | hpx
            · cases e; exact Or.inl rfl
            · exact Or.inr ⟨_, List.mem_cons_self .., hpx⟩
          · exact Or.inr ⟨g, List.mem_cons_of_mem _ hg, hpx⟩
      · rw [groupHead_cons_new p0 y (fun g gs h => hj ⟨g, gs, h⟩)]
        constructor
        · rintro (e | ⟨g, hg, hpx⟩)
          · cases e; exact ⟨_, List.mem_cons_self .., List.mem_singleton.2 rfl⟩
          · exact ⟨g, List.mem_cons_of_mem _ hg, hpx⟩
        · rintro ⟨g, hg, hpx⟩
          rcases List.mem_cons.1 hg with e | hg
          · cases e; cases List.mem_singleton.1 hpx; exact Or.inl rfl
          · exact Or.inr ⟨g, hg, hpx⟩

/-- `GroupOK` is kept when the first path joins the first group of the rest -/
theorem groupOK_join (c : κ) (p : List κ) (x : π) (rest : List (List κ × π)) (g gs)
    (hs : LexSorted ((c :: p, x) :: rest)) (ih : GroupOK rest (groupHead rest))
    (hG : groupHead rest = (c, g) :: gs) :
    GroupOK ((c :: p, x) :: rest) (groupHead ((c :: p, x) :: rest)) := by
  have hs' := List.pairwise_cons.1 hs
  have e := groupHead_cons_join p x hG
  rw [hG] at ih
  rw [e]
  refine ⟨sorted_cons.2 ⟨ih.sorted.head_lt, ih.sorted.tail⟩, ?_, ?_, e ▸ mem_groupHead _, ?_⟩
  · intro g' hg'
    rcases List.mem_cons.1 hg' with rfl | hg'
    · -- every element of the first group continues a path of `rest` that starts with c
      apply List.pairwise_cons.2 ⟨?_, ih.inner _ (List.mem_cons_self ..)⟩
      intro z hz
      have := hs'.1 (c :: z.1, z.2) ((ih.mem c z.1 z.2).2 ⟨g, List.mem_cons_self .., hz⟩)
      rw [lexLt_cons, if_neg (irrefl c), if_pos rfl] at this
      exact this
    · exact ih.inner g' (List.mem_cons_of_mem _ hg')
  · intro g' hg'
    rcases List.mem_cons.1 hg' with rfl | hg'
    · exact List.cons_ne_nil _ _
    · exact ih.nonempty g' (List.mem_cons_of_mem _ hg')
  · intro c0 g1 gs1 h
    cases h
    exact ⟨p, x, rest, rfl⟩

/-- `GroupOK` is kept when the first path opens a group of its own, in front of the groups of the rest -/
theorem groupOK_new (c : κ) (p : List κ) (x : π) (rest : List (List κ × π))
    (hs : LexSorted ((c :: p, x) :: rest)) (ih : GroupOK rest (groupHead rest))
    (hj : ∀ g gs, groupHead rest ≠ (c, g) :: gs) :
    GroupOK ((c :: p, x) :: rest) (groupHead ((c :: p, x) :: rest)) := by
  have hs' := List.pairwise_cons.1 hs
  have e := groupHead_cons_new p x hj
  rw [e]
  refine ⟨sorted_cons.2 ⟨?_, ih.sorted⟩, ?_, ?_, e ▸ mem_groupHead _, ?_⟩
  · -- the first group of the rest starts a path of `rest`, which lies after `c :: p`
    intro z hz
    cases hG : groupHead rest with
    | nil => rw [hG] at hz; cases hz
    | cons g0 gs =>
      obtain ⟨c', g⟩ := g0
      obtain ⟨p1, x1, rest', hrest⟩ := ih.head c' g gs hG
      have hlt : lexLt (c :: p) (c' :: p1) = true :=
        hs'.1 (c' :: p1, x1) (by rw [hrest]; exact List.mem_cons_self ..)
      have hclt : c < c' :=
        ((lexLt_cons_iff c c' p p1).1 hlt).resolve_right (fun h => hj g gs (h.1 ▸ hG))
      have hso := ih.sorted
      rw [hG] at hso hz
      rcases List.mem_cons.1 hz with rfl | hz
      · exact hclt
      · exact trans hclt (hso.head_lt z hz)
  · intro g' hg'
    rcases List.mem_cons.1 hg' with rfl | hg'
    · exact List.pairwise_singleton _ _
    · exact ih.inner g' hg'
  · intro g' hg'
    rcases List.mem_cons.1 hg' with rfl | hg'
    · exact List.cons_ne_nil _ _
    · exact ih.nonempty g' hg'
  · intro c0 g1 gs1 h
    cases h
    exact ⟨p, x, rest, rfl⟩

theorem groupHead_ok (L : List (List κ × π)) (hs : LexSorted L) (hne : ∀ pv ∈ L, pv.1 ≠ []) :
    GroupOK L (groupHead L) := by
  induction L with
  | nil => exact ⟨sorted_nil, nofun, nofun, mem_groupHead [], nofun⟩
  | cons a rest ih =>
    obtain ⟨pk, x⟩ := a
    replace ih := ih (List.pairwise_cons.1 hs).2 (fun pv hpv => hne pv (List.mem_cons_of_mem _ hpv))
    cases pk with
    | nil => exact absurd rfl (hne _ (List.mem_cons_self ..))
    | cons c p =>
      by_cases hj : ∃ g gs, groupHead rest = (c, g) :: gs
      · obtain ⟨g, gs, hG⟩ := hj
        exact groupOK_join c p x rest g gs hs ih hG
      · exact groupOK_new c p x rest hs ih (fun g gs h => hj ⟨g, gs, h⟩)

end group

section rebuild
variable {ν : Type} (dflt : ν) (r : Nat)

/-- no rank to rebuild: at most one path, the empty one, and the tree is its payload -/
theorem rebuild_zero (L : List (List κ × Tree κ ν r)) (hs : LexSorted L) (hlen : ∀ pv ∈ L, pv.1.length = 0)
    (hwf : ∀ pv ∈ L, Ft.WF r pv.2) :
    Ft.WF (r + 0) (rebuild dflt r 0 L) ∧
    (∀ pv ∈ L, ∀ q, val dflt (r + 0) (rebuild dflt r 0 L) (pv.1 ++ q) = val dflt r pv.2 q) ∧
    (∀ p : List κ, p.length = 0 → (∀ x, (p, x) ∉ L) → ∀ q,
      val dflt (r + 0) (rebuild dflt r 0 L) (p ++ q) = dflt) := by
  cases L with
  | nil =>
    refine ⟨wf_defaultTree dflt r, ?_, ?_⟩
    · intro pv h; cases h
    · intro p _ _ q
      exact val_defaultTree dflt r _
  | cons a rest =>
    have ha : a.1 = [] := List.length_eq_zero_iff.1 (hlen a (List.mem_cons_self ..))
    have hrest : rest = [] := by
      cases rest with
      | nil => rfl
      | cons b _ =>
        have hb : b.1 = [] := List.length_eq_zero_iff.1 (hlen b (List.mem_cons_of_mem _ (List.mem_cons_self ..)))
        have := (List.pairwise_cons.1 hs).1 b (List.mem_cons_self ..)
        rw [ha, hb] at this; cases this
    subst hrest
    have hrb : rebuild dflt r 0 [a] = a.2 := rfl
    rw [hrb]
    refine ⟨hwf a (List.mem_cons_self ..), ?_, ?_⟩
    · intro pv hpv q
      rw [List.mem_singleton.1 hpv, ha]; rfl
    · intro p hp hn q
      have : p = [] := List.length_eq_zero_iff.1 hp
      subst this
      exact absurd (List.mem_singleton.2 (by rw [← ha])) (hn a.2)

theorem rebuild_spec (s : Nat) : ∀ (L : List (List κ × Tree κ ν r)), LexSorted L →
    (∀ pv ∈ L, pv.1.length = s) → (∀ pv ∈ L, Ft.WF r pv.2) →
    Ft.WF (r + s) (rebuild dflt r s L) ∧
    (∀ pv ∈ L, ∀ q, val dflt (r + s) (rebuild dflt r s L) (pv.1 ++ q) = val dflt r pv.2 q) ∧
    (∀ p : List κ, p.length = s → (∀ x, (p, x) ∉ L) → ∀ q,
      val dflt (r + s) (rebuild dflt r s L) (p ++ q) = dflt) := by
  induction s with
  | zero => exact rebuild_zero dflt r
  | succ s ih =>
    intro L hs hlen hwf
    have hne : ∀ pv ∈ L, pv.1 ≠ [] := by
      intro pv hpv e
      have := hlen pv hpv
      rw [e] at this; cases this
    have hG := groupHead_ok L hs hne
    have hgl : ∀ c g, (c, g) ∈ groupHead L → ∀ pv ∈ g, pv.1.length = s := by
      intro c g hg pv hpv
      have := hlen (c :: pv.1, pv.2) ((hG.mem c pv.1 pv.2).2 ⟨g, hg, hpv⟩)
      simpa using this
    have hgw : ∀ c g, (c, g) ∈ groupHead L → ∀ pv ∈ g, Ft.WF r pv.2 := by
      intro c g hg pv hpv
      exact hwf (c :: pv.1, pv.2) ((hG.mem c pv.1 pv.2).2 ⟨g, hg, hpv⟩)
    -- the three facts of the statement, for each group
    have ihg : ∀ c g, (c, g) ∈ groupHead L → _ := fun c g hg =>
      ih g (hG.inner (c, g) hg) (hgl c g hg) (hgw c g hg)
    -- the top fiber of the rebuilt tree: one element per group, holding the rebuilt group
    have hlk : ∀ c, lookup (show List (κ × Tree κ ν (r + s)) from rebuild dflt r (s + 1) L) c =
        (lookup (groupHead L) c).map (rebuild dflt r s) :=
      fun c => lookup_map_payload (groupHead L) (fun _ g => rebuild dflt r s g) c
    refine ⟨⟨sorted_map_key (groupHead L) (fun g => rebuild dflt r s g.2) hG.sorted, ?_⟩, ?_, ?_⟩
    · intro e he
      obtain ⟨g, hg, rfl⟩ := List.mem_map.1 he
      exact (ihg g.1 g.2 hg).1
    · intro pv hpv q
      obtain ⟨pk, x⟩ := pv
      cases pk with
      | nil => exact absurd rfl (hne _ hpv)
      | cons c p =>
        obtain ⟨g, hg, hpx⟩ := (hG.mem c p x).1 hpv
        show val dflt (r + s + 1) (rebuild dflt r (s + 1) L) (c :: (p ++ q)) = _
        rw [val_cons_some dflt (r + s) _ c _ (rebuild dflt r s g)
          (by rw [hlk, lookup_of_sorted_mem hG.sorted hg]; rfl)]
        exact (ihg c g hg).2.1 (p, x) hpx q
    · intro p hp hn q
      cases p with
      | nil => cases hp
      | cons c p' =>
        show val dflt (r + s + 1) (rebuild dflt r (s + 1) L) (c :: (p' ++ q)) = dflt
        cases hlg : lookup (groupHead L) c with
        | none => exact val_cons_none dflt (r + s) _ c _ (by rw [hlk, hlg]; rfl)
        | some g =>
          have hg := mem_of_lookup_eq_some hlg
          rw [val_cons_some dflt (r + s) _ c _ (rebuild dflt r s g) (by rw [hlk, hlg]; rfl)]
          exact (ihg c g hg).2.2 p' (by simpa using hp) (fun x hx => hn x ((hG.mem c p' x).2 ⟨g, hg, hx⟩)) q

end rebuild

section inU
variable (U : List κ) (r : Nat)

theorem flatten_in (s : Nat) : ∀ (t : Tree κ Int (r + s)), coordsInB U (r + s) t = true →
    ∀ pv ∈ flattenN r s t, (∀ c ∈ pv.1, c ∈ U) ∧ coordsInB U r pv.2 = true := by
  induction s with
  | zero =>
    intro t hin pv h
    rw [show pv = ([], t) from List.mem_singleton.1 h]
    exact ⟨nofun, hin⟩
  | succ s ih =>
    intro t hin pv h
    obtain ⟨e, he, pv', hpv', rfl⟩ := (mem_flattenN_succ r s t pv).1 h
    obtain ⟨h1, h2⟩ := coordsIn_sub hin he
    obtain ⟨h3, h4⟩ := ih e.2 h2 pv' hpv'
    exact ⟨List.forall_mem_cons.2 ⟨h1, h3⟩, h4⟩

theorem rebuild_in (s : Nat) : ∀ (L : List (List κ × Tree κ Int r)), LexSorted L →
    (∀ pv ∈ L, pv.1.length = s) → (∀ pv ∈ L, (∀ c ∈ pv.1, c ∈ U) ∧ coordsInB U r pv.2 = true) →
    coordsInB U (r + s) (rebuild (0 : Int) r s L) = true := by
  induction s with
  | zero =>
    intro L _ _ hin
    cases L with
    | nil => exact coordsIn_default U r
    | cons a rest => exact (hin a (List.mem_cons_self ..)).2
  | succ s ih =>
    intro L hs hlen hin
    have hne : ∀ pv ∈ L, pv.1 ≠ [] := by
      intro pv hpv e
      have := hlen pv hpv
      rw [e] at this; cases this
    have hG := groupHead_ok L hs hne
    show (show List (κ × Tree κ Int (r + s)) from rebuild (0 : Int) r (s + 1) L).all _ = true
    have hrb : (show List (κ × Tree κ Int (r + s)) from rebuild (0 : Int) r (s + 1) L) =
        (groupHead L).map (fun g => (g.1, rebuild (0 : Int) r s g.2)) := rfl
    rw [hrb, List.all_eq_true]
    intro e he
    obtain ⟨g, hg, rfl⟩ := List.mem_map.1 he
    have hmem : ∀ pv ∈ g.2, (g.1 :: pv.1, pv.2) ∈ L := fun pv hpv =>
      (hG.mem g.1 pv.1 pv.2).2 ⟨g.2, hg, hpv⟩
    rw [Bool.and_eq_true, List.contains_iff_mem]
    constructor
    · cases hg2 : g.2 with
      | nil => exact absurd hg2 (hG.nonempty g hg)
      | cons pv _ =>
        have := hmem pv (by rw [hg2]; exact List.mem_cons_self ..)
        exact (hin _ this).1 g.1 (List.mem_cons_self ..)
    · apply ih g.2 (hG.inner g hg)
      · intro pv hpv
        have := hlen _ (hmem pv hpv)
        simpa using this
      · intro pv hpv
        obtain ⟨h1, h2⟩ := hin _ (hmem pv hpv)
        exact ⟨fun c hc => h1 c (List.mem_cons_of_mem _ hc), h2⟩

end inU

section swz
variable {ν : Type} (dflt : ν) (r s : Nat) (guide : List Nat) (hg : guide.Perm (List.range s))
include hg

theorem swizzle_list_ok (t : Tree κ ν (r + s)) (hw : Ft.WF (r + s) t) :
    let L := sortLex ((flattenN r s t).map (fun pv => (permute guide pv.1, pv.2)))
    LexSorted L ∧ (∀ pv ∈ L, pv.1.length = s) ∧
    (∀ pv, pv ∈ L ↔ ∃ pv0 ∈ flattenN r s t, pv = (permute guide pv0.1, pv0.2)) := by
  intro L
  have hr : ∀ g ∈ guide, g < s := fun g hgm => List.mem_range.1 (hg.mem_iff.1 hgm)
  have hgl : guide.length = s := by rw [hg.length_eq, List.length_range]
  have hmem : ∀ pv, pv ∈ L ↔ ∃ pv0 ∈ flattenN r s t, pv = (permute guide pv0.1, pv0.2) := by
    intro pv
    rw [(sortLex_perm _).mem_iff, List.mem_map]
    constructor
    · rintro ⟨pv0, h0, rfl⟩; exact ⟨pv0, h0, rfl⟩
    · rintro ⟨pv0, h0, rfl⟩; exact ⟨pv0, h0, rfl⟩
  refine ⟨?_, ?_, hmem⟩
  · apply sortLex_sorted
    unfold KeysDistinct
    rw [List.pairwise_map]
    apply List.Pairwise.imp_of_mem _ (flatten_distinct r s t hw)
    intro a b ha hb hab e
    exact hab (permute_inj s guide hg a.1 b.1 (flatten_mem r s t hw a ha).1 (flatten_mem r s t hw b hb).1 e)
  · intro pv hpv
    obtain ⟨pv0, h0, rfl⟩ := (hmem pv).1 hpv
    show (permute guide pv0.1).length = s
    rw [permute_length guide pv0.1 (fun g hgm => by rw [(flatten_mem r s t hw pv0 h0).1]; exact hr g hgm), hgl]

/-- **the swizzled tree denotes the same tensor with the ranks permuted**, and is well-formed -/
theorem swizzle_spec (t : Tree κ ν (r + s)) (hw : Ft.WF (r + s) t) :
    Ft.WF (r + s) (swizzle dflt r s guide t) ∧
    ∀ p : List κ, p.length = s → ∀ q,
      val dflt (r + s) (swizzle dflt r s guide t) (permute guide p ++ q) = val dflt (r + s) t (p ++ q) := by
  obtain ⟨h1, h2, h3⟩ := swizzle_list_ok r s guide hg t hw
  have hr : ∀ g ∈ guide, g < s := fun g hgm => List.mem_range.1 (hg.mem_iff.1 hgm)
  have hgl : guide.length = s := by rw [hg.length_eq, List.length_range]
  obtain ⟨w1, w2, w3⟩ := rebuild_spec dflt r s _ h1 h2 (by
    intro pv hpv
    obtain ⟨pv0, h0, rfl⟩ := (h3 pv).1 hpv
    exact (flatten_mem r s t hw pv0 h0).2.1)
  refine ⟨w1, ?_⟩
  intro p hp q
  by_cases hex : ∃ x, (p, x) ∈ flattenN r s t
  · obtain ⟨x, hx⟩ := hex
    have := w2 (permute guide p, x) ((h3 _).2 ⟨(p, x), hx, rfl⟩) q
    show val dflt (r + s) (rebuild dflt r s _) (permute guide p ++ q) = _
    rw [this]
    exact ((flatten_mem r s t hw (p, x) hx).2.2 dflt q).symm
  · have hnone : ∀ x, (permute guide p, x) ∉
        sortLex ((flattenN r s t).map (fun pv => (permute guide pv.1, pv.2))) := by
      intro x hx
      obtain ⟨pv0, h0, e⟩ := (h3 _).1 hx
      obtain ⟨e1, e2⟩ := Prod.mk.inj e
      have := permute_inj s guide hg p pv0.1 hp (flatten_mem r s t hw pv0 h0).1 e1
      exact hex ⟨pv0.2, by rw [this]; exact h0⟩
    have hlen : (permute guide p).length = s := by
      rw [permute_length guide p (fun g hgm => by rw [hp]; exact hr g hgm), hgl]
    show val dflt (r + s) (rebuild dflt r s _) (permute guide p ++ q) = _
    rw [w3 (permute guide p) hlen hnone q]
    exact (flatten_val_none dflt r s t hw p hp (fun x hx => hex ⟨x, hx⟩) q).symm

end swz

theorem swizzle_in (U : List κ) (r s : Nat) (guide : List Nat) (hg : guide.Perm (List.range s))
    (t : Tree κ Int (r + s)) (hw : Ft.WF (r + s) t) (hin : coordsInB U (r + s) t = true) :
    coordsInB U (r + s) (swizzle (0 : Int) r s guide t) = true := by
  obtain ⟨h1, h2, h3⟩ := swizzle_list_ok r s guide hg t hw
  apply rebuild_in U r s _ h1 h2
  intro pv hpv
  obtain ⟨pv0, h0, rfl⟩ := (h3 pv).1 hpv
  obtain ⟨a, b⟩ := flatten_in U r s t hin pv0 h0
  exact ⟨fun c hc => a c (mem_permute hc), b⟩

end
end Ft.C06
