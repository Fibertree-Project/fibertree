/-
  Helper lemmas for the aggregated co-iterators (n-ary intersection / union, leader–follower).
-/
import FtProofs.C04
import FtModel.Nary
namespace Ft
open StrictTotal

section
variable {κ α β γ : Type} [LT κ] [DecidableRel (α := κ) (· < ·)] [DecidableEq κ] [StrictTotal κ]

theorem mapM_option_cons (f : γ → Option β) (b : γ) (rest : List γ) :
    (b :: rest).mapM f = (f b).bind (fun pb => (rest.mapM f).map (fun ps => pb :: ps)) := by
  rw [List.mapM_cons]
  cases f b with
  | none => rfl
  | some pb =>
    cases rest.mapM f with
    | none => rfl
    | some ps => rfl

/-- the fold of `&` over further operands keeps exactly the elements present in all of them and
    appends their payloads in operand order -/
theorem foldl_and_spec : ∀ (rest : List (Fib κ α)) (acc : Fib κ (List α)), Sorted acc → (∀ b ∈ rest, Sorted b) →
    rest.foldl (fun acc b => (andMerge acc b).map (fun r => (r.1, r.2.1 ++ [r.2.2]))) acc =
      acc.filterMap (fun e => (rest.mapM (fun b => lookup b e.1)).map (fun ps => (e.1, e.2 ++ ps))) := by
  intro rest
  induction rest with
  | nil =>
    intro acc _ _
    refine ((filterMap_congr' fun e _ => ?_).trans List.filterMap_some).symm
    show some (e.1, e.2 ++ []) = some e
    rw [List.append_nil]
  | cons b rest ih =>
    intro acc hs hb
    rw [List.foldl_cons, and_spec acc b hs (hb b (List.mem_cons_self ..)),
      ih _ (sorted_map_key _ (fun r => r.2.1 ++ [r.2.2]) (andSpec_sorted acc b hs))
        (fun x hx => hb x (List.mem_cons_of_mem _ hx))]
    unfold andSpec
    rw [List.filterMap_map, List.filterMap_filterMap]
    apply filterMap_congr'
    intro e _
    rw [mapM_option_cons]
    cases lookup b e.1 with
    | none => rfl
    | some pb =>
      simp only [Option.map_some, Option.bind_some, Function.comp]
      cases rest.mapM (fun b => lookup b e.1) with
      | none => rfl
      | some ps => simp [List.append_assoc]

end
end Ft

namespace Ft
open StrictTotal
section
variable {κ α : Type} [LT κ] [DecidableRel (α := κ) (· < ·)] [DecidableEq κ] [StrictTotal κ]

/-- invariant of the union fold after the operands `ops` have been merged -/
structure OrInv (ops : List (Fib κ α)) (st : Nat × Fib κ (List (Option α))) : Prop where
  count : st.1 = ops.length
  sorted : Sorted st.2
  rows : ∀ row ∈ st.2, row.2 = naryOrRow ops row.1 ∧ row.2.any (·.isSome) = true
  cover : ∀ b ∈ ops, ∀ e ∈ b, HasKey st.2 e.1

def orStep (st : Nat × Fib κ (List (Option α))) (b : Fib κ α) : Nat × Fib κ (List (Option α)) :=
  (st.1 + 1, (orMerge st.2 b).map (fun r => (r.1, (r.2.2.1.getD (List.replicate st.1 none)) ++ [r.2.2.2])))

omit [LT κ] [DecidableRel (α := κ) (· < ·)] [StrictTotal κ] in
theorem naryOrRow_append (ops : List (Fib κ α)) (b : Fib κ α) (c : κ) :
    naryOrRow (ops ++ [b]) c = naryOrRow ops c ++ [lookup b c] := by
  simp [naryOrRow]

theorem naryOrRow_none_of_not_cover (ops : List (Fib κ α)) (c : κ)
    (h : ∀ b ∈ ops, ¬ HasKey b c) : naryOrRow ops c = List.replicate ops.length none := by
  induction ops with
  | nil => rfl
  | cons b r ih =>
    simp only [naryOrRow, List.map_cons, List.length_cons, List.replicate_succ]
    rw [lookup_none_of_not_hasKey (h b (List.mem_cons_self ..))]
    congr 1
    exact ih (fun x hx => h x (List.mem_cons_of_mem _ hx))

theorem exists_hasKey_of_any_naryOrRow {ops : List (Fib κ α)} {c : κ}
    (h : (naryOrRow ops c).any (·.isSome) = true) : ∃ b ∈ ops, HasKey b c := by
  rw [naryOrRow, List.any_map, List.any_eq_true] at h
  obtain ⟨b, hb, hbs⟩ := h
  exact ⟨b, hb, (hasKey_iff_lookup b c).2 hbs⟩

theorem orStep_inv (ops : List (Fib κ α)) (st : Nat × Fib κ (List (Option α))) (b : Fib κ α)
    (hinv : OrInv ops st) (hb : Sorted b) : OrInv (ops ++ [b]) (orStep st b) := by
  have hrows := orMerge_rows st.2 b hinv.sorted hb
  refine ⟨?_, sorted_map_key _ _ (orMerge_sorted st.2 b hinv.sorted hb), ?_, ?_⟩
  · show st.1 + 1 = (ops ++ [b]).length
    rw [List.length_append, hinv.count]; rfl
  · intro row hrow
    obtain ⟨r, hr, rfl⟩ := List.mem_map.1 hrow
    obtain ⟨h1, h2, _⟩ := hrows r hr
    show r.2.2.1.getD (List.replicate st.1 none) ++ [r.2.2.2] = naryOrRow (ops ++ [b]) r.1 ∧
      (r.2.2.1.getD (List.replicate st.1 none) ++ [r.2.2.2]).any (·.isSome) = true
    rw [naryOrRow_append, h1, h2, List.any_append]
    cases hl : lookup st.2 r.1 with
    | some ps =>
      -- the coordinate was there already: its row gets one more entry
      obtain ⟨e1, e2⟩ := hinv.rows _ (mem_of_lookup_eq_some hl)
      exact ⟨by rw [Option.getD_some, ← e1], by rw [Option.getD_some, e2]; rfl⟩
    | none =>
      -- a new coordinate: none of the earlier operands has it, so `b` does
      have hnk : ¬ HasKey st.2 r.1 := fun h => by
        have := (hasKey_iff_lookup _ _).1 h
        rw [hl] at this; cases this
      have hnone : ∀ x ∈ ops, ¬ HasKey x r.1 := fun x hx ⟨e, he, hec⟩ =>
        hnk (hec ▸ hinv.cover x hx e he)
      have hbk := (orMerge_keys st.2 b r.1 ⟨r, hr, rfl⟩).resolve_left hnk
      refine ⟨by rw [Option.getD_none, naryOrRow_none_of_not_cover ops r.1 hnone, hinv.count], ?_⟩
      refine Bool.or_eq_true_iff.2 (Or.inr ?_)
      show ((lookup b r.1).isSome || false) = true
      rw [(hasKey_iff_lookup b r.1).1 hbk]; rfl
  · intro x hx e he
    refine (hasKey_map_key _ _ _).2 (orMerge_cover _ _ _ ?_)
    rcases List.mem_append.1 hx with h | h
    · exact Or.inl (hinv.cover x h e he)
    · rw [List.mem_singleton.1 h] at he; exact Or.inr ⟨e, he, rfl⟩

theorem foldl_orStep_inv : ∀ (rest : List (Fib κ α)) (ops : List (Fib κ α)) (st : Nat × Fib κ (List (Option α))),
    OrInv ops st → (∀ b ∈ rest, Sorted b) → OrInv (ops ++ rest) (rest.foldl orStep st) := by
  intro rest
  induction rest with
  | nil => intro ops st h _; rw [List.append_nil]; exact h
  | cons b rest ih =>
    intro ops st h hb
    have := ih (ops ++ [b]) (orStep st b) (orStep_inv ops st b h (hb b (List.mem_cons_self ..)))
      (fun x hx => hb x (List.mem_cons_of_mem _ hx))
    rw [List.append_assoc] at this
    exact this

theorem naryOr_inv (a : Fib κ α) (rest : List (Fib κ α)) (ha : Sorted a) (hr : ∀ b ∈ rest, Sorted b) :
    OrInv (a :: rest) (rest.foldl orStep (1, a.map (fun e => (e.1, [some e.2])))) := by
  have h0 : OrInv [a] (1, a.map (fun e => (e.1, [some e.2]))) := by
    refine ⟨rfl, sorted_map_key a (fun e => [some e.2]) ha, ?_, ?_⟩
    · intro row hrow
      obtain ⟨e, he, rfl⟩ := List.mem_map.1 hrow
      simp [naryOrRow, lookup_of_sorted_mem ha he]
    · intro b hb e he
      rw [List.mem_singleton.1 hb] at he
      exact (hasKey_map_key a _ e.1).2 ⟨e, he, rfl⟩
  exact foldl_orStep_inv rest [a] _ h0 hr

end
end Ft
