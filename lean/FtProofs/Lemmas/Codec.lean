/-
  Lemmas for C20 (codec): the encoder rank by rank (`level_facts`), on top of it the decoder round trip,
  the invariant `FibFacts` of the fiber objects, the rank counters and the depth-first walk; the handle
  interface of one fiber (`coordToHandle` as the lower bound `lb`, scans, slices) from `FibFacts` alone.
-/
import FtModel.Codec
import FtProofs.Lemmas.Content
namespace Ft
namespace Codec

variable {hu : Nat → Bool} {dflt : Int}

theorem zipApp_nil_left {α : Type} (b : List (List α)) : zipApp [] b = [] := rfl

theorem zipApp_cons {α : Type} (a : List α) (as : List (List α)) (b : List α) (bs : List (List α)) :
    zipApp (a :: as) (b :: bs) = (a ++ b) :: zipApp as bs := rfl

theorem length_zipApp {α : Type} (a b : List (List α)) : (zipApp a b).length = min a.length b.length :=
  List.length_zipWith

theorem zipApp_assoc {α : Type} (a b c : List (List α)) :
    zipApp (zipApp a b) c = zipApp a (zipApp b c) := by
  induction a generalizing b c with
  | nil => simp [zipApp]
  | cons x a ih =>
    cases b with
    | nil => simp [zipApp]
    | cons y b =>
      cases c with
      | nil => simp [zipApp]
      | cons z c => simp only [zipApp_cons, ih, List.append_assoc]

theorem mem_flatten_head {α : Type} (x : α) (l : List (List α)) : x ∈ ([x] :: l).flatten := by
  rw [List.flatten_cons]; exact List.mem_append_left _ (List.mem_singleton_self x)

theorem mem_flatten_zipApp {α : Type} (a b : List (List α)) (x : α) (h : x ∈ (zipApp a b).flatten) :
    x ∈ a.flatten ∨ x ∈ b.flatten := by
  induction a generalizing b with
  | nil => simp [zipApp] at h
  | cons u a ih =>
    cases b with
    | nil => simp [zipApp] at h
    | cons v b =>
      rw [zipApp_cons, List.flatten_cons, List.mem_append, List.mem_append] at h
      rcases h with (h | h) | h
      · left; simp [h]
      · right; simp [h]
      · rcases ih b h with h | h
        · left; simp [h]
        · right; simp [h]

theorem zipApp_replicate_nil {α : Type} (k : Nat) (r : List (List α)) (h : r.length = k) :
    zipApp (List.replicate k []) r = r := by
  subst h
  induction r with
  | nil => rfl
  | cons x r ih => rw [List.length_cons, List.replicate_succ, zipApp_cons, List.nil_append, ih]

theorem zipApp_replicate_nil_right {α : Type} (k : Nat) (r : List (List α)) (h : r.length = k) :
    zipApp r (List.replicate k []) = r := by
  subst h
  induction r with
  | nil => rfl
  | cons x r ih => rw [List.length_cons, List.replicate_succ, zipApp_cons, List.append_nil, ih]

def posFrom (lo m : Nat) : List Int := (List.range' lo m).map Int.ofNat

theorem irange_eq (n : Nat) : irange n = posFrom 0 n := by
  simp [irange, posFrom, List.range_eq_range']

theorem posFrom_zero (lo : Nat) : posFrom lo 0 = [] := rfl

theorem posFrom_succ (lo m : Nat) : posFrom lo (m + 1) = (lo : Int) :: posFrom (lo + 1) m := by
  simp [posFrom, List.range'_succ]

theorem length_posFrom (lo m : Nat) : (posFrom lo m).length = m := by simp [posFrom]

theorem mem_posFrom {lo m : Nat} {x : Int} : x ∈ posFrom lo m ↔ (lo : Int) ≤ x ∧ x < (lo + m : Nat) := by
  induction m generalizing lo with
  | zero => simp [posFrom_zero]
  | succ m ih =>
    rw [posFrom_succ, List.mem_cons, ih]
    constructor
    · rintro (h | ⟨h1, h2⟩)
      · subst h; constructor <;> omega
      · constructor <;> omega
    · rintro ⟨h1, h2⟩
      by_cases hx : x = (lo : Int)
      · exact Or.inl hx
      · right; constructor <;> omega

def Inc (cs : List Int) : Prop := cs.Pairwise (· < ·)

theorem inc_tail {c : Int} {r : List Int} (h : Inc (c :: r)) : Inc r := (List.pairwise_cons.1 h).2

theorem inc_head_lt {c : Int} {r : List Int} (h : Inc (c :: r)) : ∀ x ∈ r, c < x := (List.pairwise_cons.1 h).1

theorem inc_posFrom (lo m : Nat) : Inc (posFrom lo m) := by
  rw [Inc, posFrom, List.pairwise_map]
  exact (List.pairwise_lt_range' (s := lo) (n := m)).imp (fun h => Int.ofNat_lt.2 h)

theorem filter_posFrom_contains (lo m : Nat) (cs : List Int) (hs : Inc cs) :
    (posFrom lo m).filter (fun i => cs.contains i)
      = cs.filter (fun c => decide ((lo : Int) ≤ c ∧ c < (lo + m : Nat))) := by
  apply List.Pairwise.eq_of_mem_iff (fun _ _ => Int.lt_asymm) ((inc_posFrom lo m).filter _)
    (hs.filter _)
  intro x
  rw [List.mem_filter, List.mem_filter, mem_posFrom, List.contains_iff_mem, decide_eq_true_eq]
  exact And.comm

/-- positions (from `ch`) of the set bits -/
def maskCoordsFrom (ch : Nat) (bits : List Int) : List Int :=
  ((bits.zipIdx ch).filter (fun e => !decide (e.1 = 0))).map (fun e => (e.2 : Int))

theorem maskCoordsFrom_cons (ch : Nat) (b : Int) (r : List Int) :
    maskCoordsFrom ch (b :: r) = if b = 0 then maskCoordsFrom (ch + 1) r else (ch : Int) :: maskCoordsFrom (ch + 1) r := by
  by_cases h : b = 0 <;> simp [maskCoordsFrom, List.zipIdx_cons, h]

theorem maskCoordsFrom_mask (m lo : Nat) (cs : List Int) :
    maskCoordsFrom lo ((posFrom lo m).map (fun i => if cs.contains i then (1 : Int) else 0))
      = (posFrom lo m).filter (fun i => cs.contains i) := by
  induction m generalizing lo with
  | zero => rfl
  | succ m ih =>
    rw [posFrom_succ, List.map_cons, maskCoordsFrom_cons, List.filter_cons, ih (lo + 1)]
    by_cases h : cs.contains (lo : Int) = true
    · rw [if_pos h, if_pos h, if_neg (by decide)]
    · rw [if_neg h, if_neg h, if_pos rfl]

theorem maskCoords_maskOf (dim : Nat) (cs : List Int) (hs : Inc cs)
    (hin : ∀ c ∈ cs, 0 ≤ c ∧ c < (dim : Nat)) : maskCoords (maskOf dim cs) = cs := by
  show maskCoordsFrom 0 (maskOf dim cs) = cs
  rw [maskOf, irange_eq, maskCoordsFrom_mask, filter_posFrom_contains 0 dim cs hs,
    List.filter_eq_self]
  intro c hc
  have := hin c hc
  exact decide_eq_true (by omega)

theorem length_maskOf (dim : Nat) (cs : List Int) : (maskOf dim cs).length = dim := by
  simp [maskOf, irange]

/-- walking all positions of a range and looking each one up (absent → a default that
    contributes nothing) visits exactly the stored elements of a sorted in-range fiber -/
theorem flatMap_dense {π β : Type} (g : Int → π → List β) (dflt : π) (hd : ∀ c, g c dflt = [])
    (m lo : Nat) (a : Fib Int π) (hs : Sorted a)
    (hin : ∀ e ∈ a, (lo : Int) ≤ e.1 ∧ e.1 < (lo + m : Nat)) :
    ((posFrom lo m).map (fun i => (i, (lookup a i).getD dflt))).flatMap (fun e => g e.1 e.2)
      = a.flatMap (fun e => g e.1 e.2) := by
  have hkeys : (posFrom lo m).filter (fun i => (a.map (·.1)).contains i) = a.map (·.1) := by
    rw [filter_posFrom_contains lo m _ (List.pairwise_map.2 hs), List.filter_eq_self]
    intro c hc
    obtain ⟨e, he, rfl⟩ := List.mem_map.1 hc
    exact decide_eq_true (hin e he)
  -- a position that is not a stored coordinate yields the default
  rw [List.flatMap_map, ← List.flatMap_filter_skip _ (fun i => (a.map (·.1)).contains i), hkeys, List.flatMap_map]
  · rw [List.flatMap_def, List.flatMap_def]
    exact congrArg List.flatten (List.map_congr_left fun e he => by rw [lookup_of_sorted_mem hs he]; rfl)
  · intro i _ hi
    rw [lookup_none_of_not_hasKey (fun ⟨e, he, hc⟩ => Bool.noConfusion
      ((List.contains_iff_mem.2 (List.mem_map.2 ⟨e, he, hc⟩)).symm.trans hi))]
    exact hd i

def denseOf {π : Type} (m : Nat) (dflt : π) (a : Fib Int π) : Fib Int π :=
  (irange m).map (fun i => (i, (lookup a i).getD dflt))

theorem denseOf_coords {π : Type} (m : Nat) (dflt : π) (a : Fib Int π) :
    (denseOf m dflt a).map (·.1) = irange m := by
  simp [denseOf, List.map_map, Function.comp_def]

/-- a format either walks the positions of an extent between the tensor's own and the laid-out
    one (U always, and all of that one), or presents the stored non-empty elements -/
theorem elemsOf_cases {π : Type} (f : Fmt) (u : Bool) (dim tdim : Nat) (dflt : π) (isE : π → Bool)
    (a : Fib Int π) (htd : tdim ≤ dim) :
    (∃ m, m ≤ dim ∧ tdim ≤ m ∧ (f = .U → m = dim) ∧ elemsOf f u dim tdim dflt isE a = denseOf m dflt a) ∨
    (f ≠ .U ∧ elemsOf f u dim tdim dflt isE a = a.filter (fun e => !isE e.2)) := by
  cases f with
  | U => left; exact ⟨dim, Nat.le_refl _, htd, fun _ => rfl, rfl⟩
  | C =>
    cases u with
    | true => left; exact ⟨tdim, htd, Nat.le_refl _, fun h => Fmt.noConfusion h, rfl⟩
    | false => right; exact ⟨by decide, rfl⟩
  | B =>
    cases u with
    | true => left; exact ⟨tdim, htd, Nat.le_refl _, fun h => Fmt.noConfusion h, rfl⟩
    | false => right; exact ⟨by decide, rfl⟩

/-- the elements a format lays out carry the whole content of the fiber -/
theorem flatMap_elemsOf {π β : Type} (g : Int → π → List β) (f : Fmt) (u : Bool) (dim tdim : Nat) (dflt : π)
    (isE : π → Bool) (hd : ∀ c, g c dflt = []) (hE : ∀ c x, isE x = true → g c x = [])
    (a : Fib Int π) (hs : Sorted a) (htd : tdim ≤ dim) (hin : ∀ e ∈ a, 0 ≤ e.1 ∧ e.1 < (tdim : Nat)) :
    (elemsOf f u dim tdim dflt isE a).flatMap (fun e => g e.1 e.2) = a.flatMap (fun e => g e.1 e.2) := by
  rcases elemsOf_cases f u dim tdim dflt isE a htd with ⟨m, hm, htm, _, he⟩ | ⟨_, he⟩
  · rw [he]
    simp only [denseOf, irange_eq]
    apply flatMap_dense g dflt hd m 0 a hs
    intro e he; have := hin e he; constructor <;> omega
  · rw [he]
    apply List.flatMap_filter_skip
    intro x _ hx; exact hE x.1 x.2 (by simpa using hx)

theorem elemsOf_facts {π : Type} (f : Fmt) (u : Bool) (dim tdim : Nat) (dflt : π) (isE : π → Bool)
    (a : Fib Int π) (hs : Sorted a) (htd : tdim ≤ dim) (hin : ∀ e ∈ a, 0 ≤ e.1 ∧ e.1 < (tdim : Nat)) :
    Inc ((elemsOf f u dim tdim dflt isE a).map (·.1)) ∧
    (∀ c ∈ (elemsOf f u dim tdim dflt isE a).map (·.1), (0 : Int) ≤ c ∧ c < ((dim : Nat) : Int)) ∧
    (f = .U → (elemsOf f u dim tdim dflt isE a).map (·.1) = irange dim) ∧
    (∀ P : π → Prop, P dflt → (∀ e ∈ a, P e.2) → ∀ e ∈ elemsOf f u dim tdim dflt isE a, P e.2) := by
  rcases elemsOf_cases f u dim tdim dflt isE a htd with ⟨m, hm, _, hU, hel⟩ | ⟨hnU, hel⟩
  · rw [hel, denseOf_coords]
    refine ⟨irange_eq m ▸ inc_posFrom 0 m, ?_, fun h => by rw [hU h], ?_⟩
    · intro c hc
      rw [irange_eq] at hc
      have := mem_posFrom.1 hc
      constructor <;> omega
    · intro P hd ha e he
      obtain ⟨i, _, rfl⟩ := List.mem_map.1 he
      cases h : lookup a i with
      | none => exact hd
      | some p =>
        exact ha (i, p) (mem_of_lookup_eq_some h)
  · rw [hel]
    refine ⟨List.pairwise_map.2 (hs.filter _), ?_, fun h => absurd h hnU, ?_⟩
    · intro c hc
      obtain ⟨e, he, rfl⟩ := List.mem_map.1 hc
      have := hin e (List.mem_filter.1 he).1
      constructor <;> omega
    · intro P _ ha e he
      exact ha e (List.mem_filter.1 he).1

theorem takeCoords_stored (f : Fmt) (dim n : Nat) (ec rest : List Int)
    (hU : f = .U → ec = irange dim) (hn : f = .C → n = ec.length) (hinc : Inc ec)
    (hin : ∀ c ∈ ec, (0 : Int) ≤ c ∧ c < ((dim : Nat) : Int)) :
    takeCoords f dim n (storedCoords f dim ec ++ rest) = (ec, rest) := by
  cases f with
  | U => simp [takeCoords, storedCoords, hU rfl]
  | C => simp [takeCoords, storedCoords, hn rfl]
  | B =>
    have hl := length_maskOf dim ec
    simp only [takeCoords, storedCoords]
    rw [List.take_left' hl, List.drop_left' hl, maskCoords_maskOf dim ec hinc hin]

theorem encKids_len {α : Type} (k : Nat) (enc1 : Cnt → α → Res)
    (hlen : ∀ cnt x, (enc1 cnt x).cs.length = k ∧ (enc1 cnt x).ps.length = k ∧ (enc1 cnt x).fibs.length = k)
    (xs : List α) (cnt : Cnt) (cum : Nat) :
    (encKids k enc1 xs cnt cum).cs.length = k ∧ (encKids k enc1 xs cnt cum).ps.length = k ∧
    (encKids k enc1 xs cnt cum).fibs.length = k ∧ (encKids k enc1 xs cnt cum).cums.length = xs.length := by
  induction xs generalizing cnt cum with
  | nil => simp [encKids]
  | cons x xs ih =>
    have h := hlen cnt x
    have ih' := ih (enc1 cnt x).cnt (cum + (enc1 cnt x).occ)
    simp only [encKids, length_zipApp, h.1, h.2.1, h.2.2, ih'.1, ih'.2.1, ih'.2.2.1, ih'.2.2.2, Nat.min_self,
      List.length_cons, and_self]

theorem encF_len (d : Nat) : ∀ (fs : List Fmt) (tsh : List Nat) (ish : Option (List Nat)) (pidx : Nat) (cnt : Cnt)
    (a : Tree Int Int (d + 1)),
    (encF hu dflt d fs tsh ish pidx cnt a).cs.length = d + 1 ∧ (encF hu dflt d fs tsh ish pidx cnt a).ps.length = d + 1 ∧
    (encF hu dflt d fs tsh ish pidx cnt a).fibs.length = d + 1 := by
  induction d with
  | zero => intro fs tsh ish pidx cnt a; simp [encF]
  | succ d ih =>
    intro fs tsh ish pidx cnt a
    simp only [encF, List.length_cons]
    have := encKids_len (d + 1)
      (encF hu dflt d fs.tail tsh.tail (ishNext (fs.headD Fmt.U) ish) (cnt.headD (0, 0)).1)
      (fun c x => ih _ _ _ _ c x)
    exact ⟨congrArg (· + 1) (this _ _ _).1, congrArg (· + 1) (this _ _ _).2.1, congrArg (· + 1) (this _ _ _).2.2.1⟩

theorem diffs_encKids {α : Type} (k : Nat) (enc1 : Cnt → α → Res) (x : α) (xs : List α) (cnt : Cnt) (cum : Nat) :
    diffs (cum : Int) (encKids k enc1 (x :: xs) cnt cum).cums
      = (enc1 cnt x).occ :: diffs ((cum + (enc1 cnt x).occ : Nat) : Int)
          (encKids k enc1 xs (enc1 cnt x).cnt (cum + (enc1 cnt x).occ)).cums := by
  simp only [encKids, diffs]
  congr 1
  omega

def pre (c : Int) (pv : List Int × Int) : List Int × Int := (c :: pv.1, pv.2)

/-- the decoder's loop over the children undoes the encoder's loop, provided each child decodes -/
theorem decKids_encKids {α : Type} (k : Nat) (enc1 : Cnt → α → Res)
    (dec1 : Nat → List (List Int) → List (List Int) → DRes) (cont1 : α → Content) (needN : Prop)
    (P : α → Prop)
    (h1 : ∀ x, P x → ∀ (cnt : Cnt) (n : Nat) (rc rp : List (List Int)), rc.length = k → rp.length = k →
        (needN → n = (enc1 cnt x).occ) →
        dec1 n (zipApp (enc1 cnt x).cs rc) (zipApp (enc1 cnt x).ps rp) = ⟨cont1 x, rc, rp⟩)
    (hlen : ∀ cnt x, (enc1 cnt x).cs.length = k ∧ (enc1 cnt x).ps.length = k ∧ (enc1 cnt x).fibs.length = k)
    (els : List (Int × α)) (hP : ∀ e ∈ els, P e.2) (cnt : Cnt) (cum : Nat) (rc rp : List (List Int))
    (hrc : rc.length = k) (hrp : rp.length = k) (sizes : List Nat) (hsz : sizes.length = els.length)
    (hN : needN → sizes = diffs (cum : Int) (encKids k enc1 (els.map (·.2)) cnt cum).cums) :
    decKids dec1 ((els.map (·.1)).zip sizes)
        (zipApp (encKids k enc1 (els.map (·.2)) cnt cum).cs rc)
        (zipApp (encKids k enc1 (els.map (·.2)) cnt cum).ps rp)
      = ⟨els.flatMap (fun e => (cont1 e.2).map (pre e.1)), rc, rp⟩ := by
  induction els generalizing cnt cum sizes with
  | nil =>
    simp only [List.map_nil, encKids, List.zip_nil_left, decKids, List.flatMap_nil]
    rw [zipApp_replicate_nil k rc hrc, zipApp_replicate_nil k rp hrp]
  | cons e els ih =>
    cases sizes with
    | nil => simp at hsz
    | cons s ss =>
      have hl := encKids_len k enc1 hlen (els.map (·.2)) (enc1 cnt e.2).cnt (cum + (enc1 cnt e.2).occ)
      have hs : needN → s = (enc1 cnt e.2).occ ∧
          ss = diffs ((cum + (enc1 cnt e.2).occ : Nat) : Int)
                (encKids k enc1 (els.map (·.2)) (enc1 cnt e.2).cnt (cum + (enc1 cnt e.2).occ)).cums := by
        intro hn
        have := hN hn
        rw [List.map_cons, diffs_encKids] at this
        exact List.cons.inj this
      simp only [List.map_cons, List.zip_cons_cons, decKids]
      simp only [encKids]
      simp only [zipApp_assoc]
      rw [h1 e.2 (hP e (List.mem_cons_self ..)) cnt s _ _ (by rw [length_zipApp, hl.1, hrc, Nat.min_self])
            (by rw [length_zipApp, hl.2.1, hrp, Nat.min_self]) (fun hn => (hs hn).1)]
      simp only
      rw [ih (fun x hx => hP x (List.mem_cons_of_mem _ hx)) (enc1 cnt e.2).cnt (cum + (enc1 cnt e.2).occ) ss
            (by simpa using hsz) (fun hn => (hs hn).2)]
      simp [List.flatMap_cons, pre]

theorem length_diffs (p : Int) (l : List Int) : (diffs p l).length = l.length := by
  induction l generalizing p with
  | nil => rfl
  | cons e r ih => simp [diffs, ih]

theorem content_succ (d : Nat) (a : Tree Int Int (d + 1)) :
    content (κ := Int) dflt (d + 1) a
      = (show List (Int × Tree Int Int d) from a).flatMap (fun e => (content (κ := Int) dflt d e.2).map (pre e.1)) := rfl

theorem leaf_filter_map (els : List (Int × Int)) :
    (els.filter (fun e => !decide (e.2 = dflt))).map (fun e => ([e.1], e.2))
      = els.flatMap (fun e => (content (κ := Int) (ν := Int) dflt 0 e.2).map (pre e.1)) := by
  induction els with
  | nil => rfl
  | cons e els ih =>
    by_cases h : e.2 = dflt
    · simp [h, content, ih]
    · simp [h, content, ih, pre]

/-- a well-formed tree whose coordinates lie inside the tensor's extents -/
def Good (d : Nat) (tsh : List Nat) (x : Tree Int Int d) : Prop :=
  wfB (κ := Int) (ν := Int) d x = true ∧ inShape d tsh x = true

/-- the default payload of a rank with `d` ranks below it: the tensor's default value on the leaf
    rank, an empty fiber above -/
def dfltT (dflt : Int) : (d : Nat) → Tree Int Int d
  | 0 => dflt
  | d + 1 => emptyT d

/-- the elements the encoder lays out for a fiber with `d` ranks below it -/
def elsOf (hu : Nat → Bool) (dflt : Int) (d : Nat) (f : Fmt) (tsh : List Nat) (ish : Option (List Nat))
    (a : List (Int × Tree Int Int d)) : Fib Int (Tree Int Int d) :=
  elemsOf f (hu d) (dimOf tsh ish) (tsh.headD 0) (dfltT dflt d) (isEmpty (κ := Int) dflt d) a

theorem level_facts (d : Nat) (f : Fmt) (fs' : List Fmt) (tsh : List Nat) (ish : Option (List Nat))
    (a : List (Int × Tree Int Int d))
    (hg : Good (d + 1) tsh a) (hdims : dimsOK (f :: fs') tsh ish = true) :
    Inc ((elsOf hu dflt d f tsh ish a).map (·.1)) ∧
    (∀ c ∈ (elsOf hu dflt d f tsh ish a).map (·.1), (0 : Int) ≤ c ∧ c < ((dimOf tsh ish : Nat) : Int)) ∧
    (f = .U → (elsOf hu dflt d f tsh ish a).map (·.1) = irange (dimOf tsh ish)) ∧
    (elsOf hu dflt d f tsh ish a).flatMap (fun e => (content (κ := Int) dflt d e.2).map (pre e.1))
      = content (κ := Int) (ν := Int) dflt (d + 1) a ∧
    (∀ e ∈ elsOf hu dflt d f tsh ish a, Good d tsh.tail e.2) ∧
    dimsOK fs' tsh.tail (ishNext f ish) = true := by
  have hwf2 : (sortedB a && a.all (fun e => wfB (κ := Int) (ν := Int) d e.2)) = true := hg.1
  rw [Bool.and_eq_true, List.all_eq_true] at hwf2
  have hs : Sorted a := (sortedB_iff _).1 hwf2.1
  have hdims2 : (decide (tsh.headD 0 ≤ dimOf tsh ish) && dimsOK fs' tsh.tail (ishNext f ish)) = true := hdims
  rw [Bool.and_eq_true, decide_eq_true_eq] at hdims2
  have hin2 : (a.all fun e => decide (0 ≤ e.1) && decide (e.1 < ((tsh.headD 0 : Nat) : Int)) &&
      inShape d tsh.tail e.2) = true := hg.2
  simp only [List.all_eq_true, Bool.and_eq_true, decide_eq_true_eq] at hin2
  have hin' : ∀ e ∈ a, 0 ≤ e.1 ∧ e.1 < ((tsh.headD 0 : Nat) : Int) := fun e he => (hin2 e he).1
  have hdflt : Good d tsh.tail (dfltT dflt d) := by
    cases d <;> exact ⟨rfl, rfl⟩
  have hd : ∀ c : Int, (content (κ := Int) dflt d (dfltT dflt d)).map (pre c) = [] := by
    intro c
    cases d with
    | zero => simp [content, dfltT]
    | succ d => rfl
  obtain ⟨hinc, hrange, hdense, hall⟩ := elemsOf_facts f (hu d) (dimOf tsh ish) (tsh.headD 0) (dfltT dflt d)
    (isEmpty (κ := Int) dflt d) a hs hdims2.1 hin'
  refine ⟨hinc, hrange, hdense, ?_, ?_, hdims2.2⟩
  · exact flatMap_elemsOf (fun c (x : Tree Int Int d) => (content (κ := Int) dflt d x).map (pre c)) f _ _ _ _ _ hd
      (fun c x hx => by rw [content_eq_nil_of_isEmpty hx]; rfl) a hs hdims2.1 hin'
  · exact hall (Good d tsh.tail) hdflt
      (fun e he => ⟨hwf2.2 e he, (hin2 e he).2⟩)

/-- the leaf rank's elements, the payloads being the values themselves -/
def elsOf0 (hu : Nat → Bool) (dflt : Int) (f : Fmt) (tsh : List Nat) (ish : Option (List Nat))
    (a : List (Int × Int)) : Fib Int Int :=
  elemsOf f (hu 0) (dimOf tsh ish) (tsh.headD 0) dflt (fun v => decide (v = dflt)) a

theorem leaf_facts (f : Fmt) (tsh : List Nat) (ish : Option (List Nat)) (a : List (Int × Int))
    (hg : Good 1 tsh a) (hdims : dimsOK [f] tsh ish = true) :
    Inc ((elsOf0 hu dflt f tsh ish a).map (·.1)) ∧
    (∀ c ∈ (elsOf0 hu dflt f tsh ish a).map (·.1), (0 : Int) ≤ c ∧ c < ((dimOf tsh ish : Nat) : Int)) ∧
    (f = .U → (elsOf0 hu dflt f tsh ish a).map (·.1) = irange (dimOf tsh ish)) ∧
    (elsOf0 hu dflt f tsh ish a).flatMap (fun e => (content (κ := Int) (ν := Int) dflt 0 e.2).map (pre e.1))
      = content (κ := Int) (ν := Int) dflt 1 a :=
  have h := level_facts (hu := hu) (dflt := dflt) 0 f [] tsh ish a hg hdims
  ⟨h.1, h.2.1, h.2.2.1, h.2.2.2.1⟩

/-- the encoder's loop over the children of a fiber with `d + 1` ranks below it -/
def kidsOf (hu : Nat → Bool) (dflt : Int) (d : Nat) (f : Fmt) (fs' : List Fmt) (tsh : List Nat)
    (ish : Option (List Nat)) (cnt : Cnt) (a : List (Int × Tree Int Int (d + 1))) : KRes :=
  encKids (d + 1) (encF hu dflt d fs' tsh.tail (ishNext f ish) (cnt.headD (0, 0)).1)
    ((elsOf hu dflt (d + 1) f tsh ish a).map (·.2)) cnt.tail 0

theorem encF_succ_occ (d : Nat) (f : Fmt) (fs' : List Fmt) (tsh : List Nat) (ish : Option (List Nat))
    (pidx : Nat) (cnt : Cnt) (a : List (Int × Tree Int Int (d + 1))) :
    (encF hu dflt (d + 1) (f :: fs') tsh ish pidx cnt a).occ =
      (match f with
       | .U => pidx
       | _ => (elemsOf f (hu (d + 1)) (dimOf tsh ish) (tsh.headD 0) (emptyT d) (isEmpty (κ := Int) dflt (d + 1)) a).length) := rfl

theorem decF_encF_zero (f : Fmt) (tsh : List Nat) (ish : Option (List Nat)) (pidx : Nat) (cnt : Cnt)
    (a : List (Int × Int)) (n : Nat) (rc0 rp0 : List Int)
    (hg : Good 1 tsh a) (hdims : dimsOK [f] tsh ish = true)
    (hn : f = .C → n = (encF hu dflt 0 [f] tsh ish pidx cnt a).occ) :
    decF dflt 0 [f] (effShape [f] tsh ish) n (zipApp (encF hu dflt 0 [f] tsh ish pidx cnt a).cs [rc0])
        (zipApp (encF hu dflt 0 [f] tsh ish pidx cnt a).ps [rp0])
      = ⟨content (κ := Int) (ν := Int) dflt 1 a, [rc0], [rp0]⟩ := by
  obtain ⟨hinc, hrange, hdense, hcont⟩ := leaf_facts (hu := hu) (dflt := dflt) f tsh ish a hg hdims
  have htc := takeCoords_stored f (dimOf tsh ish) n _ rc0 hdense
    (fun h => by subst h; exact (hn rfl).trans (List.length_map _).symm) hinc hrange
  have hl : ((elsOf0 hu dflt f tsh ish a).map (·.2)).length = ((elsOf0 hu dflt f tsh ish a).map (·.1)).length := by
    rw [List.length_map, List.length_map]
  show decF dflt 0 [f] _ n (zipApp [storedCoords f (dimOf tsh ish) ((elsOf0 hu dflt f tsh ish a).map (·.1))] [rc0])
    (zipApp [(elsOf0 hu dflt f tsh ish a).map (·.2)] [rp0]) = _
  simp only [decF, effShape, List.headD_cons, zipApp_cons, zipApp_nil_left]
  rw [htc]
  simp only []  -- project the pair `(ec, rc0)` that `takeCoords` returned
  rw [List.take_left' hl, List.drop_left' hl, List.zip_map_fst_snd, leaf_filter_map, hcont]

/-- one rank of the decoder above the leaf rank: it reads the rank's coordinates `ec`, takes the children's sizes
    from the cumulative occupancies `cums` if the rank below needs them, and leaves the rest to the children -/
theorem decF_step (d : Nat) (f : Fmt) (fs' : List Fmt) (sh : Nat) (shs : List Nat) (n : Nat)
    (c ec rc0 cums rp0 : List Int) (cs' ps' rc' rp' : List (List Int)) (C : Content)
    (htc : takeCoords f sh n c = (ec, rc0)) (hcl : cums.length = ec.length)
    (hkd : ∀ sizes : List Nat, sizes.length = ec.length → (fs'.headD .U = .C → sizes = diffs 0 cums) →
      decKids (decF dflt d fs' shs) (ec.zip sizes) cs' ps' = ⟨C, rc', rp'⟩) :
    decF dflt (d + 1) (f :: fs') (sh :: shs) n (c :: cs')
        (((if (fs'.headD .U).explicit then cums else []) ++ rp0) :: ps') = ⟨C, rc0 :: rc', rp0 :: rp'⟩ := by
  rw [decF]
  simp only [List.headD_cons, List.tail_cons, htc]
  cases hex : (fs'.headD .U).explicit with
  | true =>
    simp only [if_true]
    rw [List.take_left' hcl, List.drop_left' hcl, hkd (diffs 0 cums) (by rw [length_diffs, hcl]) (fun _ => rfl)]
  | false =>
    -- a rank below that stores no occupancies is not C, so any sizes will do
    simp only [Bool.false_eq_true, if_false, List.nil_append]
    rw [hkd (List.replicate ec.length 0) (by simp) (by intro h; rw [h] at hex; cases hex)]

/-- the decoder undoes the encoder on every sub-tree: fed with the arrays the sub-tree appended, followed rank by
    rank by whatever else the ranks hold (`rc`, `rp`), it returns the sub-tree's content and leaves exactly `rc`, `rp`.
    `n` is the element count the rank above tells a C fiber; the other formats ignore it. -/
theorem decF_encF (d : Nat) : ∀ (fs : List Fmt) (tsh : List Nat) (ish : Option (List Nat)) (pidx : Nat) (cnt : Cnt)
    (a : List (Int × Tree Int Int d)) (n : Nat) (rc rp : List (List Int)),
    fs.length = d + 1 → Good (d + 1) tsh a →
    dimsOK fs tsh ish = true →
    rc.length = d + 1 → rp.length = d + 1 →
    (fs.headD .U = .C → n = (encF hu dflt d fs tsh ish pidx cnt a).occ) →
    decF dflt d fs (effShape fs tsh ish) n (zipApp (encF hu dflt d fs tsh ish pidx cnt a).cs rc)
        (zipApp (encF hu dflt d fs tsh ish pidx cnt a).ps rp)
      = ⟨content (κ := Int) (ν := Int) dflt (d + 1) a, rc, rp⟩ := by
  induction d with
  | zero =>
    intro fs tsh ish pidx cnt a n rc rp hfs hg hdims hrc hrp hn
    obtain ⟨f, rfl⟩ := List.length_eq_one_iff.1 hfs
    obtain ⟨rc0, rfl⟩ := List.length_eq_one_iff.1 hrc
    obtain ⟨rp0, rfl⟩ := List.length_eq_one_iff.1 hrp
    exact decF_encF_zero f tsh ish pidx cnt a n rc0 rp0 hg hdims hn
  | succ d ih =>
    intro fs tsh ish pidx cnt a n rc rp hfs hg hdims hrc hrp hn
    obtain ⟨f, fs', rfl, hfs''⟩ := exists_cons_of_length hfs
    obtain ⟨rc0, rc', rfl, hrc''⟩ := exists_cons_of_length hrc
    obtain ⟨rp0, rp', rfl, hrp''⟩ := exists_cons_of_length hrp
    obtain ⟨hinc, hrange, hdense, hcont, hkids, hdk⟩ :=
      level_facts (hu := hu) (dflt := dflt) (d + 1) f fs' tsh ish a hg hdims
    have htc := takeCoords_stored f (dimOf tsh ish) n _ rc0 hdense
      (fun h => by rw [hn (by rw [h]; rfl), encF_succ_occ, h, List.length_map]; rfl) hinc hrange
    have hlenE := fun (c : Cnt) (x : Tree Int Int (d + 1)) =>
      encF_len (hu := hu) (dflt := dflt) d fs' tsh.tail (ishNext f ish) (cnt.headD (0, 0)).1 c x
    have hcl : (kidsOf hu dflt d f fs' tsh ish cnt a).cums.length
        = ((elsOf hu dflt (d + 1) f tsh ish a).map (·.1)).length :=
      (encKids_len (d + 1) _ hlenE _ cnt.tail 0).2.2.2.trans (by rw [List.length_map, List.length_map])
    show decF dflt (d + 1) (f :: fs') (dimOf tsh ish :: effShape fs' tsh.tail (ishNext f ish)) n
      ((storedCoords f (dimOf tsh ish) ((elsOf hu dflt (d + 1) f tsh ish a).map (·.1)) ++ rc0) ::
        zipApp (kidsOf hu dflt d f fs' tsh ish cnt a).cs rc')
      (((if (fs'.headD .U).explicit then (kidsOf hu dflt d f fs' tsh ish cnt a).cums else []) ++ rp0) ::
        zipApp (kidsOf hu dflt d f fs' tsh ish cnt a).ps rp') = _
    refine decF_step d f fs' _ _ n _ _ rc0 _ rp0 _ _ rc' rp' _ htc hcl (fun sizes hsz hN => ?_)
    -- the children decode: the loop lemma with this theorem, one rank lower, for each child
    rw [← hcont]
    exact decKids_encKids (d + 1) (encF hu dflt d fs' tsh.tail (ishNext f ish) (cnt.headD (0, 0)).1)
      (decF dflt d fs' (effShape fs' tsh.tail (ishNext f ish))) (fun x => content (κ := Int) (ν := Int) dflt (d + 1) x)
      (fs'.headD .U = .C) (Good (d + 1) tsh.tail)
      (fun x hx c n rc rp hrc hrp hn => ih fs' tsh.tail _ _ c x n rc rp hfs'' hx hdk hrc hrp hn)
      hlenE _ hkids cnt.tail 0 rc' rp' hrc'' hrp'' sizes (hsz.trans (List.length_map _)) hN


theorem ishNext_none (f : Fmt) : ishNext f none = none := rfl

theorem effShape_decl : ∀ (fs : List Fmt) (tsh : List Nat) (ish : Option (List Nat)),
    (declShape tsh ish).length = fs.length → effShape fs tsh ish = declShape tsh ish
  | [], _, _, h => (List.eq_nil_of_length_eq_zero h).symm
  | f :: fs, tsh, none, h => by
    cases tsh with
    | nil => cases h
    | cons x tsh => exact congrArg (x :: ·) (effShape_decl fs tsh none (Nat.succ.inj h))
  | f :: fs, tsh, some s, h => by
    cases s with
    | nil => cases h
    | cons x s => exact congrArg (x :: ·) (effShape_decl fs tsh.tail (some s) (Nat.succ.inj h))

/-- the imposed shape (if any) dominates the tensor's own shape -/
def IshOK (ish : Option (List Nat)) (tsh : List Nat) : Prop :=
  match ish with
  | none => True
  | some s => shapeGe s tsh = true

/-- an imposed shape that dominates the tensor's does so rank by rank: at this rank, and its tail at the
    ranks below -/
theorem IshOK_step (f : Fmt) (ish : Option (List Nat)) (tsh : List Nat) (h : IshOK ish tsh) :
    tsh.headD 0 ≤ dimOf tsh ish ∧ IshOK (ishNext f ish) tsh.tail := by
  cases ish with
  | none => exact ⟨Nat.le_refl _, trivial⟩
  | some s =>
    have h' : shapeGe s tsh = true := h
    cases s with
    | nil => cases tsh with
      | nil => exact ⟨Nat.le_refl _, rfl⟩
      | cons _ _ => simp [shapeGe] at h'
    | cons a s => cases tsh with
      | nil => simp [shapeGe] at h'
      | cons b tsh =>
        simp only [shapeGe, Bool.and_eq_true, decide_eq_true_eq] at h'
        exact ⟨h'.1, h'.2⟩

theorem shapeGe_length : ∀ (s tsh : List Nat), shapeGe s tsh = true → s.length = tsh.length
  | [], [], _ => rfl
  | [], _ :: _, h => by simp [shapeGe] at h
  | _ :: _, [], h => by simp [shapeGe] at h
  | a :: s, b :: tsh, h => by
    simp [shapeGe] at h
    simp [shapeGe_length s tsh h.2]

theorem effShape_decl_of_IshOK (fs : List Fmt) (tsh : List Nat) (ish : Option (List Nat))
    (htsh : tsh.length = fs.length) (hish : IshOK ish tsh) : effShape fs tsh ish = declShape tsh ish := by
  apply effShape_decl
  cases ish with
  | none => exact htsh
  | some s => exact (shapeGe_length s tsh hish).trans htsh

theorem dimsOK_of_IshOK : ∀ (fs : List Fmt) (tsh : List Nat) (ish : Option (List Nat)),
    IshOK ish tsh → dimsOK fs tsh ish = true
  | [], _, _, _ => rfl
  | f :: fs, tsh, ish, h => by
    show (decide (tsh.headD 0 ≤ dimOf tsh ish) && dimsOK fs tsh.tail (ishNext f ish)) = true
    rw [Bool.and_eq_true, decide_eq_true_eq]
    exact ⟨(IshOK_step f ish tsh h).1, dimsOK_of_IshOK fs tsh.tail (ishNext f ish) (IshOK_step f ish tsh h).2⟩

/-- the decoder does not look at the extent of a C rank -/
theorem decF_agree (d : Nat) : ∀ (fs : List Fmt) (s1 s2 : List Nat), agreeNonC fs s1 s2 = true →
    fs.length = d + 1 → decF dflt d fs s1 = decF dflt d fs s2 := by
  induction d with
  | zero =>
    intro fs s1 s2 h hl
    match fs, hl with
    | [f], _ =>
    funext n cs ps
    simp only [agreeNonC, Bool.and_true, Bool.or_eq_true, beq_iff_eq] at h
    simp only [decF, List.headD_cons]
    rcases h with h | h
    · subst h; rfl
    · rw [h]
  | succ d ih =>
    intro fs s1 s2 h hl
    match fs, hl with
    | f :: fs', hl' =>
    simp only [agreeNonC, Bool.and_eq_true, Bool.or_eq_true, beq_iff_eq] at h
    funext n cs ps
    have hrec := ih fs' s1.tail s2.tail h.2 (by simpa using hl')
    simp only [decF, List.headD_cons, List.tail_cons, hrec]
    rcases h.1 with h1 | h1
    · subst h1; rfl
    · rw [h1]

theorem inc_getD (cs : List Int) (h : Inc cs) (i j : Nat) (hij : i < j) (hj : j < cs.length) :
    cs.getD i 0 < cs.getD j 0 := by
  have hi : i < cs.length := Nat.lt_trans hij hj
  rw [getD_eq_getElem cs i hi, getD_eq_getElem cs j hj]
  exact sorted_getElem?_lt cs h hij (List.getElem?_eq_getElem hi) (List.getElem?_eq_getElem hj)

/-- number of leading coordinates below `b` -/
def lb (l : List Int) (b : Int) : Nat := (l.takeWhile (fun c => decide (c < b))).length

theorem lb_cons (c : Int) (r : List Int) (b : Int) :
    lb (c :: r) b = if c < b then lb r b + 1 else 0 := by
  unfold lb
  by_cases h : c < b <;> simp [h]

theorem lb_le (l : List Int) (b : Int) : lb l b ≤ l.length := (List.takeWhile_sublist _).length_le

theorem lowerHandle_eq (cs : List Int) (q : Int) :
    lowerHandle cs q = if lb cs q < cs.length then some (lb cs q) else none := rfl

theorem getD_lt_iff_lt_lb {cs : List Int} (h : Inc cs) (q : Int) :
    ∀ i, i < cs.length → (cs.getD i 0 < q ↔ i < lb cs q) := by
  induction cs with
  | nil => intro i hi; simp at hi
  | cons c r ih =>
    intro i hi
    rw [lb_cons]
    cases i with
    | zero => by_cases hc : c < q <;> simp [hc]
    | succ i =>
      rw [List.getD_cons_succ]
      by_cases hc : c < q
      · rw [if_pos hc, ih (List.pairwise_cons.1 h).2 i (by simpa using hi)]; omega
      · have := inc_getD (c :: r) h 0 (i + 1) (by omega) hi
        rw [List.getD_cons_zero, List.getD_cons_succ] at this
        rw [if_neg hc]; omega

/-- the probe of a non-empty window `lo … hi` of positions of a list lies in the window and is a position -/
theorem mid_bounds (lo hi : Int) (n : Nat) (h0 : 0 ≤ lo) (h : lo ≤ hi) (hhi : hi < n) :
    lo ≤ (hi + lo + 1) / 2 ∧ (hi + lo + 1) / 2 ≤ hi ∧
    (((hi + lo + 1) / 2).toNat : Int) = (hi + lo + 1) / 2 ∧ ((hi + lo + 1) / 2).toNat < n := by
  obtain ⟨hlm, hmh⟩ : lo ≤ (hi + lo + 1) / 2 ∧ (hi + lo + 1) / 2 ≤ hi := by clear h0 hhi; omega
  have htn := Int.toNat_of_nonneg (Int.le_trans h0 hlm)
  exact ⟨hlm, hmh, htn, Int.ofNat_lt.1 (by rw [htn]; exact Int.lt_of_le_of_lt hmh hhi)⟩

/-- the loop of `coordToHandle`: while the lower bound lies in `lo … hi+1` (and, once the window is
    empty, the last probe `mid` tells on which side of it the query fell) the result is the lower bound -/
theorem bsearch_eq_lb (cs : List Int) (hinc : Inc cs) (q : Int) (lo hi mid : Int)
    (h0 : 0 ≤ lo) (hhi : hi < cs.length) (hlo : lo ≤ lb cs q) (hub : (lb cs q : Int) ≤ hi + 1)
    (hM : hi < lo → (lo = mid + 1 ∧ cs.getD mid.toNat 0 < q) ∨ (lo = mid ∧ q < cs.getD mid.toNat 0)) :
    bsearch cs q lo hi mid = lb cs q := by
  have hc := getD_lt_iff_lt_lb hinc q
  fun_induction bsearch cs q lo hi mid with
  | case1 lo hi mid hle mid' v hv =>
    obtain ⟨hlm, hmh, htn, hkl⟩ : lo ≤ mid' ∧ mid' ≤ hi ∧ (mid'.toNat : Int) = mid' ∧ mid'.toNat < cs.length :=
      mid_bounds lo hi _ h0 hle hhi
    -- `v = q` is not below `q`, and no coordinate left of it is `≥ q`
    have h1 : ¬ mid'.toNat < lb cs q := fun h => Int.lt_irrefl q (hv ▸ (hc _ hkl).2 h)
    have h2 : ¬ lb cs q < mid'.toNat := fun h =>
      Nat.lt_irrefl _ ((hc _ (Nat.lt_trans h hkl)).1 (Int.lt_of_lt_of_le (inc_getD cs hinc _ _ h hkl) (Int.le_of_eq hv)))
    rw [← htn, Nat.le_antisymm (Nat.le_of_not_lt h2) (Nat.le_of_not_lt h1)]
  | case2 lo hi mid hle mid' v hv hlt ih =>
    obtain ⟨hlm, hmh, htn, hkl⟩ : lo ≤ mid' ∧ mid' ≤ hi ∧ (mid'.toNat : Int) = mid' ∧ mid'.toNat < cs.length :=
      mid_bounds lo hi _ h0 hle hhi
    have hk : mid'.toNat < lb cs q := (hc _ hkl).1 hlt
    exact ih (Int.le_trans h0 (Int.le_trans hlm (Int.le_add_one (Int.le_refl _)))) hhi
      (by rw [← htn]; exact_mod_cast Nat.succ_le_of_lt hk) hub (fun _ => Or.inl ⟨rfl, hlt⟩)
  | case3 lo hi mid hle mid' v hv hnlt ih =>
    obtain ⟨hlm, hmh, htn, hkl⟩ : lo ≤ mid' ∧ mid' ≤ hi ∧ (mid'.toNat : Int) = mid' ∧ mid'.toNat < cs.length :=
      mid_bounds lo hi _ h0 hle hhi
    have hk : lb cs q ≤ mid'.toNat := Nat.le_of_not_lt fun h => hnlt ((hc _ hkl).2 h)
    exact ih h0 (Int.lt_of_le_of_lt (Int.sub_le_self _ (by decide)) (Int.lt_of_le_of_lt hmh hhi)) hlo
      (by rw [Int.sub_add_cancel, ← htn]; exact Int.ofNat_le.2 hk)
      (fun h => Or.inr ⟨Int.le_antisymm hlm (Int.le_of_sub_one_lt h),
        Int.lt_iff_le_and_ne.2 ⟨Int.not_lt.1 hnlt, fun e => hv e.symm⟩⟩)
  -- the window is empty, so `lb = lo` (`hlo`, `hub`); `hM` says which of `mid`, `mid + 1` that is, and the
  -- comparison with the last probe rules out the other alternative
  | case4 lo hi mid hnle hgt =>
    rcases hM (Int.not_le.1 hnle) with ⟨h1, _⟩ | ⟨_, h2⟩
    · clear hc; omega
    · exact absurd h2 (Int.lt_asymm hgt)
  | case5 lo hi mid hnle hngt =>
    rcases hM (Int.not_le.1 hnle) with ⟨_, h2⟩ | ⟨h1, _⟩
    · exact absurd h2 hngt
    · clear hc; omega

theorem getLastD_eq_getD (c0 : Int) (r : List Int) :
    (c0 :: r).getLastD 0 = (c0 :: r).getD r.length 0 := by
  induction r generalizing c0 with
  | nil => rfl
  | cons c1 r ih =>
    have := ih c1
    simp only [List.getLastD_cons, List.length_cons, List.getD_cons_succ] at this ⊢
    exact this

theorem c2hC_lowerHandle (cs : List Int) (hinc : Inc cs) (q : Int) : c2hC cs q = lowerHandle cs q := by
  cases cs with
  | nil => rfl
  | cons c0 r =>
    have hle := lb_le (c0 :: r) q
    have hfirst := getD_lt_iff_lt_lb hinc q 0 (by simp)
    have hlast := getD_lt_iff_lt_lb hinc q r.length (by simp)
    rw [← getLastD_eq_getD] at hlast
    rw [List.getD_cons_zero] at hfirst
    simp only [List.length_cons] at hle
    simp only [c2hC, lowerHandle_eq, List.length_cons]
    by_cases h1 : q > (c0 :: r).getLastD 0
    · rw [if_pos h1, if_neg (by omega)]
    · have hlt : lb (c0 :: r) q < r.length + 1 := by omega
      rw [if_neg h1, if_pos hlt]
      by_cases h2 : q ≤ c0
      · rw [if_pos h2]; congr 1; omega
      · rw [if_neg h2, bsearch_eq_lb (c0 :: r) hinc q 0 _ 0 (Int.le_refl _)
          (by simp only [List.length_cons]; omega) (by omega) (by omega) (by intro h; omega)]
        rfl


/-- what every fiber object produced by the encoder satisfies (the invariant the handle
    interface relies on) -/
structure FibFacts (F : EFib) : Prop where
  n_eq : F.n = F.ecoords.length
  coords_eq : F.coords = storedCoords F.fmt F.shape F.ecoords
  inc : Inc F.ecoords
  inrange : ∀ c ∈ F.ecoords, (0 : Int) ≤ c ∧ c < ((F.shape : Nat) : Int)
  dense : F.fmt = .U → F.ecoords = irange F.shape
  occs_len : F.occs.length = (match F.next with | some g => if g.explicit then F.n else 0 | none => 0)
  vals_len : F.vals.length = (match F.next with | some _ => 0 | none => F.n)
  npay_eq : F.npay = (match F.fmt, F.next with
                      | .C, some g => if g.explicit then F.n else 0
                      | _, _ => F.n)

/-- the loop over the children keeps an invariant `I` of the counters and a property `P` of the
    fiber objects that every child (satisfying `Q`) keeps -/
theorem encKids_inv {α : Type} (I : Cnt → Prop) (P : EFib → Prop) (Q : α → Prop) (k : Nat) (enc1 : Cnt → α → Res)
    (h1 : ∀ cnt x, Q x → I cnt → I (enc1 cnt x).cnt ∧ ∀ F ∈ (enc1 cnt x).fibs.flatten, P F)
    (xs : List α) (hQ : ∀ x ∈ xs, Q x) (cnt : Cnt) (cum : Nat) (hI : I cnt) :
    I (encKids k enc1 xs cnt cum).cnt ∧ ∀ F ∈ (encKids k enc1 xs cnt cum).fibs.flatten, P F := by
  induction xs generalizing cnt cum with
  | nil => exact ⟨hI, fun F hF => by simp [encKids] at hF⟩
  | cons x xs ih =>
    obtain ⟨h1a, h1b⟩ := h1 cnt x (hQ x (List.mem_cons_self ..)) hI
    obtain ⟨iha, ihb⟩ := ih (fun y hy => hQ y (List.mem_cons_of_mem _ hy)) (enc1 cnt x).cnt (cum + (enc1 cnt x).occ) h1a
    refine ⟨iha, fun F hF => ?_⟩
    simp only [encKids] at hF
    rcases mem_flatten_zipApp _ _ F hF with h | h
    · exact h1b F h
    · exact ihb F h

theorem encF_zero_fibs (f : Fmt) (fs' : List Fmt) (tsh : List Nat) (ish : Option (List Nat)) (pidx : Nat) (cnt : Cnt)
    (a : List (Int × Int)) :
    (encF hu dflt 0 (f :: fs') tsh ish pidx cnt a).fibs =
      [[{ fmt := f, next := none, shape := dimOf tsh ish,
          n := (elsOf0 hu dflt f tsh ish a).length,
          ecoords := (elsOf0 hu dflt f tsh ish a).map (·.1),
          coords := storedCoords f (dimOf tsh ish) ((elsOf0 hu dflt f tsh ish a).map (·.1)),
          occs := [], vals := (elsOf0 hu dflt f tsh ish a).map (·.2),
          npay := (elsOf0 hu dflt f tsh ish a).length,
          nnz := (match f with | .U => pidx | _ => (elsOf0 hu dflt f tsh ish a).length),
          idx := (cnt.headD (0, 0)).1, osf := (cnt.headD (0, 0)).2, kid0 := 0 }]] := rfl

theorem encF_succ_fibs (d : Nat) (f : Fmt) (fs' : List Fmt) (tsh : List Nat) (ish : Option (List Nat))
    (pidx : Nat) (cnt : Cnt) (a : List (Int × Tree Int Int (d + 1))) :
    (encF hu dflt (d + 1) (f :: fs') tsh ish pidx cnt a).fibs =
      [{ fmt := f, next := some (fs'.headD .U), shape := dimOf tsh ish,
         n := (elsOf hu dflt (d + 1) f tsh ish a).length,
         ecoords := (elsOf hu dflt (d + 1) f tsh ish a).map (·.1),
         coords := storedCoords f (dimOf tsh ish) ((elsOf hu dflt (d + 1) f tsh ish a).map (·.1)),
         occs := (if (fs'.headD .U).explicit then (kidsOf hu dflt d f fs' tsh ish cnt a).cums else []),
         vals := [],
         npay := (match f with
                  | .C => (if (fs'.headD .U).explicit then (elsOf hu dflt (d + 1) f tsh ish a).length else 0)
                  | _ => (elsOf hu dflt (d + 1) f tsh ish a).length),
         nnz := (match f with
                 | .U => pidx
                 | _ => (elsOf hu dflt (d + 1) f tsh ish a).length),
         idx := (cnt.headD (0, 0)).1, osf := (cnt.headD (0, 0)).2, kid0 := (cnt.tail.headD (0, 0)).1 }] ::
      (kidsOf hu dflt d f fs' tsh ish cnt a).fibs := rfl

theorem encF_fibs_facts_zero (f : Fmt) (tsh : List Nat) (ish : Option (List Nat)) (pidx : Nat) (cnt : Cnt)
    (a : List (Int × Int))
    (hg : Good 1 tsh a) (hdims : dimsOK [f] tsh ish = true) :
    ∀ F ∈ (encF hu dflt 0 [f] tsh ish pidx cnt a).fibs.flatten, FibFacts F := by
  intro F hF
  obtain ⟨hinc, hrange, hdense, -⟩ := leaf_facts (hu := hu) (dflt := dflt) f tsh ish a hg hdims
  rw [encF_zero_fibs] at hF
  simp only [List.flatten_cons, List.flatten_nil, List.append_nil, List.mem_singleton] at hF
  subst hF
  exact ⟨(List.length_map _).symm, rfl, hinc, hrange, hdense, rfl, List.length_map _, by cases f <;> rfl⟩

theorem encF_fibs_facts (d : Nat) : ∀ (fs : List Fmt) (tsh : List Nat) (ish : Option (List Nat)) (pidx : Nat) (cnt : Cnt)
    (a : List (Int × Tree Int Int d)),
    fs.length = d + 1 → Good (d + 1) tsh a →
    dimsOK fs tsh ish = true →
    ∀ F ∈ (encF hu dflt d fs tsh ish pidx cnt a).fibs.flatten, FibFacts F := by
  induction d with
  | zero =>
    intro fs tsh ish pidx cnt a hfs hg hdims
    obtain ⟨f, rfl⟩ := List.length_eq_one_iff.1 hfs
    exact encF_fibs_facts_zero f tsh ish pidx cnt a hg hdims
  | succ d ih =>
    intro fs tsh ish pidx cnt a hfs hg hdims F hF
    obtain ⟨f, fs', rfl, hfs''⟩ := exists_cons_of_length hfs
    obtain ⟨hinc, hrange, hdense, -, hkids, hdk⟩ :=
      level_facts (hu := hu) (dflt := dflt) (d + 1) f fs' tsh ish a hg hdims
    rw [encF_succ_fibs, List.flatten_cons, List.mem_append] at hF
    rcases hF with hF | hF
    · simp only [List.mem_singleton] at hF
      subst hF
      refine ⟨(List.length_map _).symm, rfl, hinc, hrange, hdense, ?_, rfl, by cases f <;> rfl⟩
      show (if (fs'.headD .U).explicit then (kidsOf hu dflt d f fs' tsh ish cnt a).cums else []).length
        = if (fs'.headD .U).explicit then (elsOf hu dflt (d + 1) f tsh ish a).length else 0
      cases (fs'.headD .U).explicit with
      | true =>
        exact (encKids_len (d + 1) _ (fun c x => encF_len d _ _ _ _ c x) _ cnt.tail 0).2.2.2.trans (List.length_map _)
      | false => rfl
    · exact (encKids_inv (fun _ => True) FibFacts
        (Good (d + 1) tsh.tail)
        (d + 1) _ (fun c x hx _ => ⟨trivial, ih fs' tsh.tail (ishNext f ish) _ c x hfs'' hx hdk⟩) _
        (fun x hx => by obtain ⟨e, he, rfl⟩ := List.mem_map.1 hx; exact hkids e he) _ _ trivial).2 F hF


theorem coordToHandle_C (F : EFib) (hF : FibFacts F) (hC : F.fmt = .C) (q : Int) :
    F.coordToHandle q = lowerHandle F.ecoords q := by
  have hc : F.coords = F.ecoords := by rw [hF.coords_eq, hC]; rfl
  simp only [EFib.coordToHandle, hC, hc]
  exact c2hC_lowerHandle F.ecoords hF.inc q

theorem getSize_facts (F : EFib) (hF : FibFacts F) : F.getSize = some F.words := by
  -- one stored coordinate per element for C, one mask bit per position for B
  have hlen : F.coords.length = (match F.fmt with | .U => 0 | .C => F.n | .B => F.shape) := by
    rw [hF.coords_eq]
    cases F.fmt with
    | U => rfl
    | C => exact hF.n_eq.symm
    | B => exact length_maskOf _ _
  unfold EFib.getSize EFib.words EFib.isLeaf
  rw [hF.occs_len, hF.npay_eq, hlen]
  cases F.fmt with
  | U => cases F.next with
    | none => simp
    | some g => cases hg : g.explicit <;> simp [hg]
  | C => cases F.next with
    | none => simp
    | some g => cases hg : g.explicit <;> simp [hg]
  | B => cases F.next with
    | none => simp
    | some g => simp

/-- the coordinates of `l` in order, the one at position `k` (counting from `k0`) with payload
    handle `base + k` -/
def specFrom (base : Nat) (l : List Int) (k0 : Nat) : List (Option Int × Option Nat) :=
  (l.zipIdx k0).map (fun e => (some e.1, some (base + e.2)))

theorem specFrom_cons (base : Nat) (c : Int) (l : List Int) (k : Nat) :
    specFrom base (c :: l) k = (some c, some (base + k)) :: specFrom base l (k + 1) := by
  simp [specFrom, List.zipIdx_cons]

/-- payload handles count from `payBase`; C hands out a handle for every position, U and B only
    inside the payload list -/
theorem handleToPayload_eq (F : EFib) (h : Nat) (hh : F.fmt = .C ∨ h < F.npay) :
    F.handleToPayload h = some (F.payBase + h) := by
  unfold EFib.handleToPayload EFib.payBase
  cases hf : F.fmt with
  | C =>
    cases hn : F.next with
    | none => simp
    | some g => cases g <;> simp [Fmt.explicit]
  | U =>
    have : ¬ h ≥ F.npay := Nat.not_le.2 (hh.resolve_left (by rw [hf]; decide))
    simp [this]
  | B =>
    have : ¬ h ≥ F.npay := Nat.not_le.2 (hh.resolve_left (by rw [hf]; decide))
    simp [this]

theorem getD_irange (n h : Nat) (hh : h < n) : (irange n).getD h 0 = (h : Int) := by
  simp [irange, List.getD_eq_getElem?_getD, hh]

/-- `nextInSlice` of U and C from handle `h` on: the remaining element coordinates in order, the
    one at position `k` with payload handle `payBase + k` -/
theorem scanN_spec (F : EFib) (hF : FibFacts F) (hB : F.fmt ≠ .B) (m h : Nat)
    (hm : h + m = F.ecoords.length) :
    scanN F m h = specFrom F.payBase (F.ecoords.drop h) h := by
  induction m generalizing h with
  | zero => rw [List.drop_eq_nil_of_le (by omega)]; rfl
  | succ m ih =>
    have hlt : h < F.ecoords.length := by omega
    have hd : F.ecoords.drop h = F.ecoords.getD h 0 :: F.ecoords.drop (h + 1) := by
      rw [List.drop_eq_getElem_cons hlt]
      simp [List.getD_eq_getElem?_getD, hlt]
    rw [scanN, hd, specFrom_cons, ih (h + 1) (by omega)]
    congr 2
    · cases hf : F.fmt with
      | U =>
        have hs : h < F.shape := by rw [hF.dense hf] at hlt; simpa [irange] using hlt
        simp only [hF.dense hf, getD_irange _ _ hs]
      | C =>
        have hc : F.coords = F.ecoords := by rw [hF.coords_eq, hf]; rfl
        simp only [hc, if_neg (Nat.not_le.2 hlt)]
      | B => exact absurd hf hB
    · apply handleToPayload_eq
      cases hf : F.fmt with
      | U => right; rw [hF.npay_eq, hf, hF.n_eq]; exact hlt
      | C => left; rfl
      | B => exact absurd hf hB

/-- B: the set positions in order with a running payload handle, provided the payload list
    has exactly one entry per set bit -/
theorem scanBits_spec (F : EFib) (bits : List Int) (h01 : ∀ b ∈ bits, b = 0 ∨ b = 1)
    (ch ph : Nat) (hcnt : ph + (maskCoordsFrom ch bits).length = F.npay) :
    scanBits F bits ch ph = specFrom F.payBase (maskCoordsFrom ch bits) ph := by
  induction bits generalizing ch ph with
  | nil => simp [scanBits, maskCoordsFrom, specFrom]
  | cons b r ih =>
    have hr : ∀ x ∈ r, x = 0 ∨ x = 1 := fun x hx => h01 x (List.mem_cons_of_mem _ hx)
    rw [maskCoordsFrom_cons] at hcnt ⊢
    rcases h01 b (List.mem_cons_self ..) with hb | hb
    · subst hb
      simp only [if_true] at hcnt ⊢
      rw [scanBits]
      by_cases hge : ph ≥ F.npay
      · rw [if_pos hge]
        have : (maskCoordsFrom (ch + 1) r).length = 0 := by omega
        rw [List.length_eq_zero_iff.1 this]; rfl
      · rw [if_neg hge, if_neg (by decide)]
        exact ih hr (ch + 1) ph hcnt
    · subst hb
      simp only [show ¬ ((1 : Int) = 0) by decide, if_false, List.length_cons] at hcnt ⊢
      rw [scanBits, if_neg (by omega), if_pos rfl, specFrom_cons, ih hr (ch + 1) (ph + 1) (by omega),
        handleToPayload_eq F ph (Or.inr (by omega))]

theorem maskOf_01 (dim : Nat) (cs : List Int) : ∀ b ∈ maskOf dim cs, b = 0 ∨ b = 1 := by
  intro b hb
  simp only [maskOf, List.mem_map] at hb
  obtain ⟨i, _, rfl⟩ := hb
  by_cases h : cs.contains i = true
  · right; rw [if_pos h]
  · left; rw [if_neg h]

theorem layoutCoords_facts (F : EFib) (hF : FibFacts F) : F.layoutCoords = F.ecoords := by
  cases hf : F.fmt with
  | U => simp only [EFib.layoutCoords, hf]; exact (hF.dense hf).symm
  | C => simp only [EFib.layoutCoords, hf]; rw [hF.coords_eq, hf]; rfl
  | B =>
    simp only [EFib.layoutCoords, hf]
    rw [hF.coords_eq, hf]
    exact maskCoords_maskOf _ _ hF.inc hF.inrange

theorem lb_eq_zero {l : List Int} {b : Int} (h : ∀ c ∈ l, b ≤ c) : lb l b = 0 := by
  cases l with
  | nil => rfl
  | cons c r => rw [lb_cons, if_neg (Int.not_lt.2 (h c (List.mem_cons_self ..)))]

theorem take_drop_lb {l : List Int} (hinc : Inc l) (b : Int) :
    l.take (lb l b) = l.filter (fun c => decide (c < b)) ∧
    l.drop (lb l b) = l.filter (fun c => decide (b ≤ c)) := by
  induction l with
  | nil => exact ⟨rfl, rfl⟩
  | cons c r ih =>
    rw [lb_cons]
    by_cases h : c < b
    · rw [if_pos h, List.take_succ_cons, List.drop_succ_cons, (ih (inc_tail hinc)).1, (ih (inc_tail hinc)).2,
        List.filter_cons_of_pos (by simpa using h), List.filter_cons_of_neg (by simpa using h)]
      exact ⟨rfl, rfl⟩
    · rw [if_neg h, List.take_zero, List.drop_zero]
      refine ⟨(List.filter_eq_nil_iff.2 ?_).symm, (List.filter_eq_self.2 ?_).symm⟩
      · intro x hx
        rcases List.mem_cons.1 hx with e | hr
        · simpa [e] using h
        · have := inc_head_lt hinc x hr; simp; omega
      · intro x hx
        rcases List.mem_cons.1 hx with e | hr
        · simp [e]; omega
        · have := inc_head_lt hinc x hr; simp; omega

theorem filter_zipIdx_lb (l : List Int) (hinc : Inc l) (b : Int) (k0 : Nat) :
    (l.zipIdx k0).filter (fun e => decide (b ≤ e.1)) = (l.drop (lb l b)).zipIdx (k0 + lb l b) := by
  induction l generalizing k0 with
  | nil => simp [lb]
  | cons c r ih =>
    rw [lb_cons]
    by_cases h : c < b
    · rw [if_pos h, List.zipIdx_cons, List.filter_cons, if_neg (by simp; omega), ih (inc_tail hinc) (k0 + 1)]
      simp only [List.drop_succ_cons]
      congr 1; omega
    · rw [if_neg h]
      simp only [List.drop_zero, Nat.add_zero]
      rw [List.filter_eq_self]
      intro e he
      have hm := List.mem_zipIdx he
      have hmem : e.1 ∈ c :: r := by
        have := hm.2.2
        rw [this]; exact List.getElem_mem _
      rcases List.mem_cons.1 hmem with h1 | h1
      · simp; omega
      · have := inc_head_lt hinc _ h1; simp; omega

theorem posFrom_drop (lo m k : Nat) : (posFrom lo m).drop k = posFrom (lo + k) (m - k) := by
  simp [posFrom, ← List.map_drop, List.drop_range']

theorem posFrom_take (lo m k : Nat) (hk : k ≤ m) : (posFrom lo m).take k = posFrom lo k := by
  rw [posFrom, ← List.map_take, List.take_range'_of_length_ge hk]; rfl

theorem lb_posFrom (lo m : Nat) (b : Nat) (hb1 : lo ≤ b) (hb2 : b ≤ lo + m) :
    lb (posFrom lo m) (b : Int) = b - lo := by
  induction m generalizing lo with
  | zero => exact (Nat.sub_eq_zero_of_le hb2).symm
  | succ m ih =>
    rw [posFrom_succ, lb_cons]
    by_cases h : (lo : Int) < (b : Int)
    · have hlt : lo < b := Int.ofNat_lt.1 h
      rw [if_pos h, ih (lo + 1) hlt (by rw [Nat.add_right_comm]; exact hb2), Nat.sub_succ]
      exact Nat.succ_pred_eq_of_pos (Nat.sub_pos_of_lt hlt)
    · rw [if_neg h]
      exact (Nat.sub_eq_zero_of_le (Nat.le_of_not_lt fun hlt => h (Int.ofNat_lt.2 hlt))).symm

theorem coordToHandle_lb (F : EFib) (hF : FibFacts F) (hB : F.fmt ≠ .B) (b : Nat) (hb : b ≤ F.shape) :
    F.coordToHandle b = lowerHandle F.ecoords b := by
  cases hf : F.fmt with
  | U =>
    rw [lowerHandle_eq, hF.dense hf, irange_eq, lb_posFrom 0 F.shape b (Nat.zero_le _) (by omega),
      length_posFrom, Nat.sub_zero]
    simp only [EFib.coordToHandle, hf]
    by_cases hlt : b < F.shape
    · rw [if_pos hlt, if_neg (by omega), Int.toNat_natCast]
    · rw [if_neg hlt, if_pos (by omega)]
  | C => exact coordToHandle_C F hF hf b
  | B => exact absurd hf hB

theorem foldl_bits (l : List Int) (xs : List Int) (acc : Int) :
    (xs.map (fun i => if l.contains i then (1 : Int) else 0)).foldl (· + ·) acc
      = acc + ((xs.filter (fun i => l.contains i)).length : Nat) := by
  induction xs generalizing acc with
  | nil => simp
  | cons x xs ih =>
    simp only [List.map_cons, List.foldl_cons, List.filter_cons]
    rw [ih]
    by_cases h : l.contains x = true
    · rw [if_pos h, if_pos h]; simp only [List.length_cons]; omega
    · rw [if_neg h, if_neg h]; omega

/-- the set positions among the mask bits from position `b` on are the coordinates from the lower bound of `b` on -/
theorem maskCoordsFrom_drop_maskOf (dim : Nat) (cs : List Int) (hs : Inc cs)
    (hin : ∀ c ∈ cs, (0 : Int) ≤ c ∧ c < ((dim : Nat) : Int)) (b : Nat) (hb : b ≤ dim) :
    maskCoordsFrom b ((maskOf dim cs).drop b) = cs.drop (lb cs b) := by
  rw [maskOf, irange_eq, ← List.map_drop, posFrom_drop, Nat.zero_add, maskCoordsFrom_mask,
    filter_posFrom_contains _ _ _ hs, (take_drop_lb hs b).2, Nat.add_sub_cancel' hb]
  apply List.filter_congr
  intro c hc
  simp only [(hin c hc).2, and_true]

/-- `countLeft(b)`: the set bits before position `b` are as many as there are coordinates below `b` -/
theorem countLeft_maskOf (dim : Nat) (cs : List Int) (hs : Inc cs)
    (hin : ∀ c ∈ cs, (0 : Int) ≤ c ∧ c < ((dim : Nat) : Int)) (b : Nat) (hb : b ≤ dim) :
    (((maskOf dim cs).take b).foldl (· + ·) 0).toNat = lb cs b := by
  rw [maskOf, irange_eq, ← List.map_take, posFrom_take 0 dim b hb, foldl_bits, filter_posFrom_contains _ _ _ hs,
    ← List.length_take_of_le (lb_le cs b), (take_drop_lb hs b).1, Int.zero_add, Int.toNat_natCast]
  congr 1
  apply List.filter_congr
  intro c hc
  simp only [Int.natCast_zero, (hin c hc).1, true_and, Nat.zero_add]

/-- U and C set a slice up at the handle `coordToHandle b` and stop at the number of elements -/
theorem scanFrom_coordToHandle (F : EFib) (hF : FibFacts F) (hB : F.fmt ≠ .B) (b : Nat) (hb : b ≤ F.shape)
    (lim : Nat) (hlim : lim = F.ecoords.length) :
    (match F.coordToHandle b with
      | some h => scanFrom F lim h
      | none => []) = specFrom F.payBase (F.ecoords.drop (lb F.ecoords b)) (lb F.ecoords b) := by
  rw [coordToHandle_lb F hF hB b hb, lowerHandle_eq, hlim]
  by_cases hlt : lb F.ecoords b < F.ecoords.length
  · rw [if_pos hlt]
    exact scanN_spec F hF hB _ _ (Nat.add_sub_cancel' (lb_le F.ecoords b))
  · rw [if_neg hlt, List.drop_eq_nil_of_le (Nat.le_of_not_lt hlt)]; rfl

/-- `setupSlice(b)` then `nextInSlice` until None: the element coordinates from the lower bound of
    `b` on, the one at position `k` with payload handle `payBase + k` -/
theorem scanBase_raw (F : EFib) (hF : FibFacts F) (b : Nat) (hb : b ≤ F.shape) :
    F.scanBase b = specFrom F.payBase (F.ecoords.drop (lb F.ecoords b)) (lb F.ecoords b) := by
  cases hf : F.fmt with
  | U =>
    simp only [EFib.scanBase, hf]
    exact scanFrom_coordToHandle F hF (by rw [hf]; decide) b hb _ (by rw [hF.dense hf]; simp [irange])
  | C =>
    simp only [EFib.scanBase, hf]
    exact scanFrom_coordToHandle F hF (by rw [hf]; decide) b hb _ (by rw [hF.coords_eq, hf]; rfl)
  | B =>
    have hm : F.coords = maskOf F.shape F.ecoords := by rw [hF.coords_eq, hf]; rfl
    simp only [EFib.scanBase, hf]
    rw [hm, countLeft_maskOf _ _ hF.inc hF.inrange b hb, ← maskCoordsFrom_drop_maskOf _ _ hF.inc hF.inrange b hb]
    apply scanBits_spec F _ (fun x hx => maskOf_01 F.shape F.ecoords x (List.mem_of_mem_drop hx))
    rw [maskCoordsFrom_drop_maskOf _ _ hF.inc hF.inrange b hb, hF.npay_eq, hf, hF.n_eq, List.length_drop]
    exact Nat.add_sub_cancel' (lb_le F.ecoords b)

/-- every element has a payload entry, except in a C fiber above a U rank (which stores none) -/
theorem npay_eq_n (F : EFib) (hF : FibFacts F) (hcu : ¬ (F.fmt = .C ∧ F.next = some .U)) : F.npay = F.n := by
  rw [hF.npay_eq]
  cases hf : F.fmt with
  | U => rfl
  | B => rfl
  | C =>
    cases hnx : F.next with
    | none => rfl
    | some g =>
      cases g with
      | U => exact absurd ⟨hf, hnx⟩ hcu
      | C => rfl
      | B => rfl

/-- what payload handle `payBase + k` designates: the k-th leaf value resp. the k-th child -/
theorem resolve_spec (F : EFib) (hF : FibFacts F)
    (hosf : F.fmt = .C → F.next = some .U → F.osf = F.kid0) (k : Nat) (hk : k < F.n) :
    F.resolve (some (F.payBase + k)) =
      (match F.next with
       | none => some (F.vals.getD k 0)
       | some _ => some ((F.kid0 + k : Nat) : Int)) := by
  simp only [EFib.resolve]
  by_cases hcu : F.fmt = .C ∧ F.next = some .U
  · rw [show F.payBase = F.osf from if_pos hcu, hcu.2]
    simp [hcu.1, hosf hcu.1 hcu.2]
  · rw [show F.payBase = 0 from if_neg hcu, Nat.zero_add, npay_eq_n F hF hcu]
    cases hnx : F.next with
    | none =>
      simp only []  -- reduce the `match` on `none`
      rw [if_neg (Nat.not_le.2 hk)]
    | some g =>
      simp only []  -- reduce the `match` on `some g`
      rw [if_neg (fun h => hcu ⟨h.1, by rw [hnx, h.2]⟩), if_pos hk]

/-- the k-th element of the fiber as the layout defines it -/
def elemAt (F : EFib) (e : Int × Nat) : Option Int × Option Int :=
  (some e.1, match F.next with
             | none => some (F.vals.getD e.2 0)
             | some _ => some ((F.kid0 + e.2 : Nat) : Int))

theorem elemsSpec_eq (F : EFib) : F.elemsSpec = F.ecoords.zipIdx.map (elemAt F) := rfl

theorem elemsSpecFrom_eq (F : EFib) (b : Nat) :
    F.elemsSpecFrom b = (F.ecoords.zipIdx.filter (fun e => decide ((b : Int) ≤ e.1))).map (elemAt F) := by
  unfold EFib.elemsSpecFrom
  rw [elemsSpec_eq, List.filter_map]
  rfl

/-- a slice set up at coordinate `b` (inside the extent) delivers exactly the fiber's elements
    at coordinates `≥ b`, in order, each with the payload it has in a full scan -/
theorem scanBase_elems (F : EFib) (hF : FibFacts F)
    (hosf : F.fmt = .C → F.next = some .U → F.osf = F.kid0) (b : Nat) (hb : b ≤ F.shape) :
    (F.scanBase b).map (fun e => (e.1, F.resolve e.2)) = F.elemsSpecFrom b := by
  rw [scanBase_raw F hF b hb, elemsSpecFrom_eq]
  have := filter_zipIdx_lb F.ecoords hF.inc b 0
  rw [Nat.zero_add] at this
  rw [this]
  simp only [specFrom, List.map_map]
  apply List.map_congr_left
  intro e he
  have hk : e.2 < F.n := by
    have := List.mem_zipIdx he
    rw [hF.n_eq]
    have hl := List.length_drop (i := lb F.ecoords b) (l := F.ecoords)
    have := lb_le F.ecoords b
    omega
  simp only [Function.comp, elemAt]
  rw [resolve_spec F hF hosf e.2 hk]

theorem scan_eq_scanBase (F : EFib) : F.scan = F.scanBase 0 := by
  unfold EFib.scan EFib.scanBase
  cases F.fmt <;> rfl

/-- scanning an encoded fiber through its handle interface yields its layout coordinates in
    order, the k-th with payload handle `payBase + k` -/
theorem scan_facts (F : EFib) (hF : FibFacts F) : F.scan = F.scanSpec := by
  have h0 : lb F.ecoords ((0 : Nat) : Int) = 0 := lb_eq_zero (fun c hc => (hF.inrange c hc).1)
  rw [scan_eq_scanBase, scanBase_raw F hF 0 (Nat.zero_le _), h0]
  show _ = specFrom F.payBase F.layoutCoords 0
  rw [layoutCoords_facts F hF]
  rfl

/-- … and with every payload handle resolved (leaf: `payloadToValue`, above: the child fiber
    it designates) the scan yields the fiber's elements; for C above U this needs that the
    fiber's `occupancy_so_far` is the next-rank position of its first child -/
theorem scanElems_facts (F : EFib) (hF : FibFacts F)
    (hosf : F.fmt = .C → F.next = some .U → F.osf = F.kid0) :
    F.scanElems = F.elemsSpec := by
  rw [EFib.scanElems, scan_eq_scanBase, scanBase_elems F hF hosf 0 (Nat.zero_le _), EFib.elemsSpecFrom,
    List.filter_eq_self]
  intro e he
  rw [elemsSpec_eq] at he
  obtain ⟨p, hp, rfl⟩ := List.mem_map.1 he
  have hmem : p.1 ∈ F.ecoords := by rw [(List.mem_zipIdx hp).2.2]; exact List.getElem_mem _
  exact decide_eq_true (hF.inrange _ hmem).1

/-- the rank counters are consistent: below a C or B rank every element owns exactly one fiber
    of the next rank, so the elements counted so far (`occupancy_so_far` of the next fiber) are
    the fibers of the next rank counted so far -/
def CntInv : List Fmt → Cnt → Prop
  | [], _ => True
  | [_], _ => True
  | f :: g :: fs, cnt =>
    (f ≠ .U → (cnt.headD (0, 0)).2 = (cnt.tail.headD (0, 0)).1) ∧ CntInv (g :: fs) cnt.tail

/-- `occupancy_so_far` of a non-leaf C/B fiber is the next-rank position of its first child -/
def OsfFact (F : EFib) : Prop := F.fmt ≠ .U → F.next ≠ none → F.osf = F.kid0

theorem CntInv_replicate : ∀ (fs : List Fmt) (n : Nat), CntInv fs (List.replicate n (0, 0))
  | [], _ => trivial
  | [_], _ => trivial
  | f :: g :: fs, n => by
    refine ⟨?_, ?_⟩
    · intro _
      cases n with
      | zero => rfl
      | succ n => cases n <;> rfl
    · cases n with
      | zero => exact CntInv_replicate (g :: fs) 0
      | succ n => exact CntInv_replicate (g :: fs) n

/-- every sub-tree adds one fiber to its own rank -/
theorem encF_cnt_head (d : Nat) (fs : List Fmt) (tsh : List Nat) (ish : Option (List Nat)) (pidx : Nat) (cnt : Cnt)
    (a : Tree Int Int (d + 1)) :
    ((encF hu dflt d fs tsh ish pidx cnt a).cnt.headD (0, 0)).1 = (cnt.headD (0, 0)).1 + 1 := by
  cases d <;> rfl

theorem encKids_cnt_head {α : Type} (k : Nat) (enc1 : Cnt → α → Res)
    (h1 : ∀ cnt x, ((enc1 cnt x).cnt.headD (0, 0)).1 = (cnt.headD (0, 0)).1 + 1)
    (xs : List α) (cnt : Cnt) (cum : Nat) :
    ((encKids k enc1 xs cnt cum).cnt.headD (0, 0)).1 = (cnt.headD (0, 0)).1 + xs.length := by
  induction xs generalizing cnt cum with
  | nil => rfl
  | cons x xs ih =>
    show ((encKids k enc1 xs (enc1 cnt x).cnt (cum + (enc1 cnt x).occ)).cnt.headD (0, 0)).1 = _
    rw [ih, h1, List.length_cons]; omega

theorem cd_encF_zero_cnt (f : Fmt) (fs' : List Fmt) (tsh : List Nat) (ish : Option (List Nat)) (pidx : Nat) (cnt : Cnt)
    (a : List (Int × Int)) :
    ((encF hu dflt 0 (f :: fs') tsh ish pidx cnt a).cnt.headD (0, 0)).1 = (cnt.headD (0, 0)).1 + 1 :=
  encF_cnt_head 0 (f :: fs') tsh ish pidx cnt a

/-- the children's loop adds one fiber per laid-out element to the next rank -/
theorem kidsOf_cnt_head (d : Nat) (f : Fmt) (fs' : List Fmt) (tsh : List Nat) (ish : Option (List Nat)) (cnt : Cnt)
    (a : List (Int × Tree Int Int (d + 1))) :
    ((kidsOf hu dflt d f fs' tsh ish cnt a).cnt.headD (0, 0)).1
      = (cnt.tail.headD (0, 0)).1 + (elsOf hu dflt (d + 1) f tsh ish a).length :=
  (encKids_cnt_head (d + 1) _ (fun c x => encF_cnt_head d _ _ _ _ c x) _ cnt.tail 0).trans
    (congrArg _ (List.length_map _))

/-- the fiber object of the leaf rank has no children, so nothing is claimed of its `occupancy_so_far` -/
theorem encF_zero_osf (f : Fmt) (tsh : List Nat) (ish : Option (List Nat)) (pidx : Nat) (cnt : Cnt)
    (a : List (Int × Int)) : ∀ F ∈ (encF hu dflt 0 [f] tsh ish pidx cnt a).fibs.flatten, OsfFact F := by
  intro F hF
  rw [encF_zero_fibs] at hF
  simp only [List.flatten_cons, List.flatten_nil, List.append_nil, List.mem_singleton] at hF
  subst hF
  intro _ h; exact absurd rfl h

/-- the encoder keeps the rank counters consistent and every fiber object it creates has its
    `occupancy_so_far` equal to its first child's position -/
theorem encF_cnt (d : Nat) : ∀ (fs : List Fmt) (tsh : List Nat) (ish : Option (List Nat)) (pidx : Nat) (cnt : Cnt)
    (a : List (Int × Tree Int Int d)), fs.length = d + 1 → CntInv fs cnt →
    CntInv fs (encF hu dflt d fs tsh ish pidx cnt a).cnt ∧
    ∀ F ∈ (encF hu dflt d fs tsh ish pidx cnt a).fibs.flatten, OsfFact F := by
  induction d with
  | zero =>
    intro fs tsh ish pidx cnt a hfs hI
    obtain ⟨f, rfl⟩ := List.length_eq_one_iff.1 hfs
    exact ⟨trivial, encF_zero_osf f tsh ish pidx cnt a⟩
  | succ d ih =>
    intro fs tsh ish pidx cnt a hfs hI
    obtain ⟨f, fs', rfl, hfs'⟩ := exists_cons_of_length hfs
    obtain ⟨g, fs'', rfl, -⟩ := exists_cons_of_length hfs'
    have hfs'' : (g :: fs'').length = d + 1 := hfs'
    obtain ⟨hI1, hI2⟩ := hI
    obtain ⟨hKa, hKc⟩ : CntInv (g :: fs'') (kidsOf hu dflt d f (g :: fs'') tsh ish cnt a).cnt ∧
        ∀ F ∈ (kidsOf hu dflt d f (g :: fs'') tsh ish cnt a).fibs.flatten, OsfFact F :=
      encKids_inv (CntInv (g :: fs'')) OsfFact (fun _ => True) (d + 1)
        (encF hu dflt d (g :: fs'') tsh.tail (ishNext f ish) (cnt.headD (0, 0)).1)
        (fun c x _ hc => ih (g :: fs'') tsh.tail (ishNext f ish) _ c x hfs'' hc) _ (fun _ _ => trivial)
        cnt.tail 0 hI2
    rw [encF_succ_fibs]
    refine ⟨⟨?_, hKa⟩, ?_⟩
    · -- a C or B fiber hands its children one next-rank fiber each
      intro hne
      show (cnt.headD (0, 0)).2 + _ = ((kidsOf hu dflt d f (g :: fs'') tsh ish cnt a).cnt.headD (0, 0)).1
      simp only [List.headD_cons]
      rw [kidsOf_cnt_head, hI1 hne]
      rfl
    · intro F hF
      rw [List.flatten_cons, List.mem_append] at hF
      rcases hF with hF | hF
      · simp only [List.mem_singleton] at hF
        subst hF
        intro hne _
        exact hI1 hne
      · exact hKc F hF


/-- the fiber counters are the lengths of the rank lists built so far -/
def lenOK : Cnt → List (List EFib) → Prop
  | _, [] => True
  | cnt, p :: ps => (cnt.headD (0, 0)).1 = p.length ∧ lenOK cnt.tail ps

/-- the children's loop keeps the counters equal to the lengths of the rank lists (`pre` = the lists before the
    loop), if every child does -/
theorem encKids_lenOK {α : Type} (k : Nat) (enc1 : Cnt → α → Res)
    (hlen : ∀ cnt x, (enc1 cnt x).fibs.length = k)
    (h1 : ∀ cnt x (pre : List (List EFib)), pre.length = k → lenOK cnt pre →
        lenOK (enc1 cnt x).cnt (zipApp pre (enc1 cnt x).fibs))
    (xs : List α) (cnt : Cnt) (cum : Nat) (pre : List (List EFib)) (hpre : pre.length = k)
    (hok : lenOK cnt pre) :
    lenOK (encKids k enc1 xs cnt cum).cnt (zipApp pre (encKids k enc1 xs cnt cum).fibs) := by
  induction xs generalizing cnt cum pre with
  | nil =>
    simp only [encKids]
    rw [zipApp_replicate_nil_right k pre hpre]; exact hok
  | cons x xs ih =>
    simp only [encKids]
    rw [← zipApp_assoc]
    exact ih _ _ _ (by rw [length_zipApp, hpre, hlen, Nat.min_self]) (h1 cnt x pre hpre hok)

theorem encF_lenOK (d : Nat) : ∀ (fs : List Fmt) (tsh : List Nat) (ish : Option (List Nat)) (pidx : Nat) (cnt : Cnt)
    (a : Tree Int Int (d + 1)) (pre : List (List EFib)), pre.length = d + 1 → lenOK cnt pre →
    lenOK (encF hu dflt d fs tsh ish pidx cnt a).cnt (zipApp pre (encF hu dflt d fs tsh ish pidx cnt a).fibs) := by
  induction d with
  | zero =>
    intro fs tsh ish pidx cnt a pre hpre hok
    obtain ⟨p0, rfl⟩ := List.length_eq_one_iff.1 hpre
    simp only [encF, zipApp_cons, zipApp_nil_left]
    refine ⟨?_, trivial⟩
    simp only [List.headD_cons, List.length_append, List.length_singleton]
    rw [hok.1]
  | succ d ih =>
    intro fs tsh ish pidx cnt a pre hpre hok
    obtain ⟨p0, pre', rfl, hpre''⟩ := exists_cons_of_length hpre
    simp only [encF, zipApp_cons]
    refine ⟨?_, ?_⟩
    · simp only [List.headD_cons, List.length_append, List.length_singleton]
      rw [hok.1]
    · simp only [List.tail_cons]
      exact encKids_lenOK (d + 1) _ (fun c x => (encF_len d _ _ _ _ c x).2.2)
        (fun c x pr hp ho => ih _ _ _ _ c x pr hp ho) _ _ _ pre' hpre'' hok.2


/-- the walk finds the `j`-th child of a fiber at position `c0 + j` of the next rank and reads back its content
    there.  `pr`, `po`: what the rank lists hold before and after the children's fibers; `I`: the invariant of the
    counters the children need (`hI`, `hlo`: each child keeps it, adds one fiber to its rank and keeps the counters
    equal to the list lengths — `encF_cnt`, `encF_cnt_head`, `encF_lenOK` at the use); `Q`: what is known of every
    child; `hw`: the walk reads back one child; `c0`: the next-rank position of the first child, `j0`: the index of
    the first element of `els` in its fiber. -/
theorem walk_kids {α : Type} (k : Nat) (enc1 : Cnt → α → Res) (cont1 : α → Content) (Q : α → Prop)
    (I : Cnt → Prop)
    (hlen : ∀ cnt x, (enc1 cnt x).cs.length = k ∧ (enc1 cnt x).ps.length = k ∧ (enc1 cnt x).fibs.length = k)
    (hI : ∀ cnt x, I cnt → I (enc1 cnt x).cnt ∧
        ((enc1 cnt x).cnt.headD (0, 0)).1 = (cnt.headD (0, 0)).1 + 1)
    (hlo : ∀ cnt x (pr : List (List EFib)), pr.length = k → lenOK cnt pr →
        lenOK (enc1 cnt x).cnt (zipApp pr (enc1 cnt x).fibs))
    (hw : ∀ x, Q x → ∀ (cnt : Cnt) (pr po : List (List EFib)), pr.length = k → po.length = k →
        lenOK cnt pr → I cnt →
        walkM dflt (zipApp pr (zipApp (enc1 cnt x).fibs po)) (cnt.headD (0, 0)).1 = cont1 x)
    (els : List (Int × α)) (hQ : ∀ e ∈ els, Q e.2) (cnt : Cnt) (cum : Nat) (pr po : List (List EFib))
    (hpr : pr.length = k) (hpo : po.length = k) (hok : lenOK cnt pr) (hIc : I cnt)
    (c0 j0 : Nat) (hc0 : (cnt.headD (0, 0)).1 = c0 + j0) :
    ((els.map (·.1)).zipIdx j0).flatMap (fun e =>
        (walkM dflt (zipApp pr (zipApp (encKids k enc1 (els.map (·.2)) cnt cum).fibs po)) (c0 + e.2)).map (pre e.1))
      = els.flatMap (fun e => (cont1 e.2).map (pre e.1)) := by
  induction els generalizing cnt cum pr j0 with
  | nil => rfl
  | cons e els ih =>
    have hKl := (encKids_len k enc1 hlen (els.map (·.2)) (enc1 cnt e.2).cnt (cum + (enc1 cnt e.2).occ)).2.2.1
    have hI' := hI cnt e.2 hIc
    simp only [List.map_cons, List.zipIdx_cons, List.flatMap_cons, encKids]
    -- the first child's fibers stand in front of the later children's
    rw [zipApp_assoc, ← hc0, hw e.2 (hQ e (List.mem_cons_self ..)) cnt pr _ hpr
        (by rw [length_zipApp, hKl, hpo, Nat.min_self]) hok hIc,
      ← zipApp_assoc pr,
      ih (fun y hy => hQ y (List.mem_cons_of_mem _ hy)) (enc1 cnt e.2).cnt (cum + (enc1 cnt e.2).occ)
        (zipApp pr (enc1 cnt e.2).fibs) (by rw [length_zipApp, hpr, (hlen cnt e.2).2.2, Nat.min_self])
        (hlo cnt e.2 pr hpr hok) hI'.1 (j0 + 1) (by rw [hI'.2, hc0]; omega)]

theorem zipIdx_vals (front els : List (Int × Int)) :
    ((els.map (·.1)).zipIdx front.length).map
        (fun e => ((some e.1 : Option Int), (some (((front ++ els).map (·.2)).getD e.2 0) : Option Int)))
      = els.map (fun e => (some e.1, some e.2)) := by
  induction els generalizing front with
  | nil => rfl
  | cons e els ih =>
    simp only [List.map_cons, List.zipIdx_cons]
    have := ih (front ++ [e])
    simp only [List.length_append, List.length_singleton, List.append_assoc, List.singleton_append] at this
    rw [this]
    congr 1
    simp [List.getD_eq_getElem?_getD]

theorem getD_mid (p0 q0 : List EFib) (F : EFib) : (p0 ++ ([F] ++ q0)).getD p0.length default = F := by
  simp [List.getD_eq_getElem?_getD]


/-- the fiber object of an encoded leaf fiber, and that a scan of it yields its elements -/
theorem encF_zero_top (f : Fmt) (tsh : List Nat) (ish : Option (List Nat)) (pidx : Nat) (cnt : Cnt)
    (a : List (Int × Int)) (hg : Good 1 tsh a) (hdims : dimsOK [f] tsh ish = true) :
    ∃ F : EFib, (encF hu dflt 0 [f] tsh ish pidx cnt a).fibs = [[F]] ∧ F.next = none ∧
      F.vals = (elsOf0 hu dflt f tsh ish a).map (·.2) ∧ F.ecoords = (elsOf0 hu dflt f tsh ish a).map (·.1) ∧
      F.scanElems = F.elemsSpec := by
  have hfacts := encF_fibs_facts_zero (hu := hu) (dflt := dflt) f tsh ish pidx cnt a hg hdims
  rw [encF_zero_fibs] at hfacts
  exact ⟨_, encF_zero_fibs f [] tsh ish pidx cnt a, rfl, rfl, rfl,
    scanElems_facts _ (hfacts _ (by simp)) (fun _ h => nomatch h)⟩

theorem walk_encF_zero (f : Fmt) (tsh : List Nat) (ish : Option (List Nat)) (pidx : Nat) (cnt : Cnt)
    (a : List (Int × Int)) (p0 q0 : List EFib)
    (hg : Good 1 tsh a) (hdims : dimsOK [f] tsh ish = true)
    (hok : (cnt.headD (0, 0)).1 = p0.length) :
    walkM dflt (zipApp [p0] (zipApp (encF hu dflt 0 [f] tsh ish pidx cnt a).fibs [q0])) (cnt.headD (0, 0)).1
      = content (κ := Int) (ν := Int) dflt 1 a := by
  obtain ⟨-, -, -, hcont⟩ := leaf_facts (hu := hu) (dflt := dflt) f tsh ish a hg hdims
  obtain ⟨F, hfibs, hnext, hv, hc, hse⟩ := encF_zero_top (hu := hu) (dflt := dflt) f tsh ish pidx cnt a hg hdims
  rw [hfibs]
  simp only [zipApp_cons, zipApp_nil_left, walkM]
  rw [hok, getD_mid, hse]
  simp only [EFib.elemsSpec, hnext]
  rw [hv, hc]
  have hz := zipIdx_vals [] (elsOf0 hu dflt f tsh ish a)
  simp only [List.length_nil, List.nil_append] at hz
  rw [hz, List.flatMap_map, ← hcont]
  congr 1
  funext e
  by_cases h : e.2 = dflt <;> simp [content, h, Codec.pre]


/-- the fiber object an encoded sub-tree puts on top of its children's, and that a scan of it yields its
    elements (for C above U this is where the counter invariant is needed) -/
theorem encF_succ_top (d : Nat) (f g : Fmt) (fs'' : List Fmt) (tsh : List Nat) (ish : Option (List Nat)) (pidx : Nat)
    (cnt : Cnt) (a : List (Int × Tree Int Int (d + 1))) (hfs : (f :: g :: fs'').length = d + 1 + 1)
    (hg : Good (d + 1 + 1) tsh a) (hdims : dimsOK (f :: g :: fs'') tsh ish = true) (hinv : CntInv (f :: g :: fs'') cnt) :
    ∃ F : EFib, (encF hu dflt (d + 1) (f :: g :: fs'') tsh ish pidx cnt a).fibs
          = [F] :: (kidsOf hu dflt d f (g :: fs'') tsh ish cnt a).fibs ∧
      F.next = some g ∧ F.ecoords = (elsOf hu dflt (d + 1) f tsh ish a).map (·.1) ∧
      F.kid0 = (cnt.tail.headD (0, 0)).1 ∧ F.scanElems = F.elemsSpec := by
  have hF := encF_succ_fibs (hu := hu) (dflt := dflt) d f (g :: fs'') tsh ish pidx cnt a
  refine ⟨_, hF, rfl, rfl, rfl,
    scanElems_facts _ (encF_fibs_facts (d + 1) _ tsh ish pidx cnt a hfs hg hdims _ (by rw [hF]; exact mem_flatten_head _ _))
      (fun hC hU => ?_)⟩
  exact (encF_cnt (d + 1) _ tsh ish pidx cnt a hfs hinv).2 _ (by rw [hF]; exact mem_flatten_head _ _)
    (by rw [hC]; decide) (by rw [hU]; exact Option.some_ne_none _)

/-- a depth-first walk through the rank lists, started at the position the encoder's counters
    point to, reads back the content of the sub-tree that was encoded there -/
theorem walk_encF (d : Nat) : ∀ (fs : List Fmt) (tsh : List Nat) (ish : Option (List Nat)) (pidx : Nat) (cnt : Cnt)
    (a : List (Int × Tree Int Int d)) (pr po : List (List EFib)),
    fs.length = d + 1 → Good (d + 1) tsh a →
    dimsOK fs tsh ish = true →
    CntInv fs cnt → lenOK cnt pr → pr.length = d + 1 → po.length = d + 1 →
    walkM dflt (zipApp pr (zipApp (encF hu dflt d fs tsh ish pidx cnt a).fibs po)) (cnt.headD (0, 0)).1
      = content (κ := Int) (ν := Int) dflt (d + 1) a := by
  induction d with
  | zero =>
    intro fs tsh ish pidx cnt a pr po hfs hg hdims _ hok hpr hpo
    obtain ⟨f, rfl⟩ := List.length_eq_one_iff.1 hfs
    obtain ⟨p0, rfl⟩ := List.length_eq_one_iff.1 hpr
    obtain ⟨q0, rfl⟩ := List.length_eq_one_iff.1 hpo
    exact walk_encF_zero f tsh ish pidx cnt a p0 q0 hg hdims hok.1
  | succ d ih =>
    intro fs tsh ish pidx cnt a pr po hfs hg hdims hinv hok hpr hpo
    have hfs' := hfs
    obtain ⟨f, fs', rfl, hfs''⟩ := exists_cons_of_length hfs
    obtain ⟨g, fs'', rfl, -⟩ := exists_cons_of_length hfs''
    obtain ⟨p0, pr', rfl, hpr''⟩ := exists_cons_of_length hpr
    obtain ⟨q0, po', rfl, hpo''⟩ := exists_cons_of_length hpo
    obtain ⟨-, -, -, hcont, hkids, hdk⟩ :=
      level_facts (hu := hu) (dflt := dflt) (d + 1) f (g :: fs'') tsh ish a hg hdims
    obtain ⟨F, hfibs, hnext, hc, hk0, hse⟩ :=
      encF_succ_top (hu := hu) (dflt := dflt) d f g fs'' tsh ish pidx cnt a hfs' hg hdims hinv
    rw [hfibs]
    have hwalk := walk_kids (d + 1) (encF hu dflt d (g :: fs'') tsh.tail (ishNext f ish) (cnt.headD (0, 0)).1)
      (fun x => content (κ := Int) (ν := Int) dflt (d + 1) x) (Good (d + 1) tsh.tail) (CntInv (g :: fs''))
      (fun c x => encF_len d _ _ _ _ c x)
      (fun c x hc => ⟨(encF_cnt d (g :: fs'') tsh.tail (ishNext f ish) _ c x hfs'' hc).1,
                      encF_cnt_head d _ _ _ _ c x⟩)
      (fun c x p hp ho => encF_lenOK d _ _ _ _ c x p hp ho)
      (fun x hx c p q hp hq ho hc => ih (g :: fs'') tsh.tail (ishNext f ish) _ c x p q hfs'' hx hdk hc ho hp hq)
      (elsOf hu dflt (d + 1) f tsh ish a) hkids cnt.tail 0 pr' po' hpr'' hpo'' hok.2 hinv.2
      (cnt.tail.headD (0, 0)).1 0 rfl
    simp only [zipApp_cons, walkM]
    rw [hok.1, getD_mid, hse]
    simp only [EFib.elemsSpec, hnext, hc, hk0, List.flatMap_map]
    rw [← hcont, ← hwalk]
    simp only [Int.toNat_natCast]
    rfl


theorem lenOK_replicate : ∀ (n m : Nat), lenOK (List.replicate n (0, 0)) (List.replicate m [])
  | _, 0 => trivial
  | n, m + 1 => by
    refine ⟨?_, ?_⟩
    · cases n <;> rfl
    · cases n with
      | zero => exact lenOK_replicate 0 m
      | succ n => exact lenOK_replicate n m



end Codec
end Ft
