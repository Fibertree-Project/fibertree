/-
  C15 lemmas about the kernel's event sequence (FtModel/MetricsKernel.lean): an induction principle
  over the loop nest, and the facts proved with it (counters balanced with the operators that ran,
  "iter" uses balanced with loop bodies, every call made on a registered rank, no assertion failing
  on an output created with a shape).
-/
import FtProofs.Lemmas.MetricsSession
import FtProofs.Lemmas.ListFacts
namespace Ft.C15

theorem descend_noU (v : String) : ∀ (ops : List Operand) (ch : List (Nat × ATree)),
    (∀ o ∈ ops, o.uShape = none) → ∀ o ∈ descend v ops ch, o.uShape = none := by
  intro ops
  induction ops with
  | nil => intro ch _ o ho; simp [descend] at ho
  | cons x xs ih =>
    intro ch h o ho
    unfold descend at ho
    split at ho
    · split at ho
      · rcases List.mem_cons.1 ho with rfl | ho
        · exact h x List.mem_cons_self
        · exact ih _ (fun o ho => h o (List.mem_cons_of_mem _ ho)) o ho
      · rcases List.mem_cons.1 ho with rfl | ho
        · exact h _ List.mem_cons_self
        · exact ih _ (fun o ho => h o (List.mem_cons_of_mem _ ho)) o ho
    · rcases List.mem_cons.1 ho with rfl | ho
      · exact h _ List.mem_cons_self
      · exact ih _ (fun o ho => h o (List.mem_cons_of_mem _ ho)) o ho

theorem uLeafLoop_noU (v : String) (parts : List Operand) (h : ∀ o ∈ parts, o.uShape = none) : uLeafLoop v parts = none := by
  unfold uLeafLoop
  split
  · rename_i o
    rw [h o List.mem_cons_self]
    split <;> rfl
  · rfl

/-- `P` for whole (sub-)kernels, `Q v` for the inside of the loop at rank `v` (the assertion of a
    populate loop counts as part of the inside) -/
theorem runK_ind (cfg : KCfg) (noU : Bool) (P : List KEv → Prop) (Q : String → List KEv → Prop)
    (hnil : P []) (hleaf : ∀ b zt ops, P (leafBody b zt ops).2)
    (hQ0 : ∀ v, Q v []) (hQapp : ∀ v a b, Q v a → Q v b → Q v (a ++ b))
    (hiter : ∀ v c pos inner, P inner → Q v (iterEv v c pos inner))
    (hiterU : noU = false → ∀ v inner, P inner → Q v (iterEvU v inner))
    (hassert : ∀ v ins, Q v [KEv.assertShape v cfg.declared ins])
    (hwrap : ∀ v (inner : List KEv), Q v inner →
      P ([KEv.call (.registerRank v)] ++ inner ++ [KEv.call (.endIter v)]))
    :
    ∀ (loops zr : List String) (zt : ATree) (ops : List Operand),
      (noU = true → ∀ o ∈ ops, o.uShape = none) → P (runK cfg loops zr zt ops).2 := by
  intro loops
  induction loops with
  | nil => intro zr zt ops _; simp only [runK]; exact hleaf _ zt ops
  | cons v rest ih =>
    intro zr zt ops hU
    have hUd : ∀ ch, noU = true → ∀ o ∈ descend v ops ch, o.uShape = none :=
      fun ch hn => descend_noU v ops ch (hU hn)
    simp only [runK]
    split
    · -- output rank: populate
      split
      · rename_i d zf
        simp only
        rw [List.append_assoc [KEv.call (.registerRank v)]]
        apply hwrap
        apply hQapp
        · split
          · exact hassert v _
          · exact hQ0 v
        · -- the yields
          exact flatMap_ind (Q v) (hQ0 v) (hQapp v) _ (fun y => hiter v _ _ _ (ih _ _ _ (hUd _))) _
      · exact hnil
    · -- reduced rank: fold over the intersection
      simp only
      apply hwrap v
      refine List.foldlRecOn _ _ (motive := fun (acc : ATree × List KEv) => Q v acc.2) (hQ0 v) ?_
      intro acc hacc y _
      apply hQapp v _ _ hacc
      split
      · rename_i hsome
        apply hiterU _ v _ (ih _ _ _ (hUd _))
        cases hn : noU with
        | false => rfl
        | true =>
          have := uLeafLoop_noU v (ops.filter fun o => o.ranks.head? == some v)
            (fun o ho => hU hn o (List.mem_filter.1 ho).1)
          rw [this] at hsome; cases hsome
      · exact hiter v _ _ _ (ih _ _ _ (hUd _))

/-- what `[]` has and `++` keeps holds of the innermost statement as soon as it holds of the events of
    each payload operator -/
theorem leafBody_ind (P : List KEv → Prop) (h0 : P []) (happ : ∀ a b, P a → P b → P (a ++ b))
    (hm : P mulEv) (him : P imulEv) (ha : P addEv) (has : P assignEv) (hi : ∀ old, P (iaddEv old))
    (b : Body) (zt : ATree) (ops : List Operand) : P (leafBody b zt ops).2 := by
  have rep : ∀ (x : List KEv), P x → ∀ (l : List Nat), P (l.flatMap (fun _ => x)) :=
    fun x hx => flatMap_ind P h0 happ _ (fun _ => hx)
  unfold leafBody
  split
  · split
    · exact h0
    · unfold bodyEv
      cases b with
      | iaddMul => exact happ _ _ (rep _ hm _) (hi _)
      | addAssign => exact happ _ _ (happ _ _ (rep _ hm _) ha) has
      | imulTmp => exact happ _ _ (rep _ him _) (hi _)
  · exact h0

theorem callsOf_append (a b : List KEv) : callsOf (a ++ b) = callsOf a ++ callsOf b := by
  simp [callsOf, List.filterMap_append]

theorem callsOf_nil : callsOf [] = [] := rfl

def cnt (metric : String) (evs : List KEv) : Int := sumInc "Compute" metric (callsOf evs)

theorem cnt_append (m : String) (a b : List KEv) : cnt m (a ++ b) = cnt m a + cnt m b := by
  simp [cnt, callsOf_append, sumInc_append]

/-- the counters the calls add up to are the operators that ran -/
def Bal (evs : List KEv) : Prop :=
  cnt "payload_mul" evs = nMul evs ∧ cnt "payload_update" evs = nUpd evs ∧ cnt "payload_add" evs = nAdd evs

theorem Bal.nil : Bal [] := ⟨rfl, rfl, rfl⟩

theorem Bal.append {a b : List KEv} (ha : Bal a) (hb : Bal b) : Bal (a ++ b) := by
  unfold Bal nMul nUpd nAdd at *
  simp only [cnt_append, List.countP_append, Int.natCast_add, ha.1, ha.2.1, ha.2.2, hb.1, hb.2.1, hb.2.2, and_self]

theorem strip_compute : strip "Compute" = "Compute" := by decide

theorem Bal.iaddEv (old : Int) : Bal (iaddEv old) := by
  by_cases h : old = 0
  · subst h; unfold Bal; decide +kernel
  · simp [Bal, cnt, callsOf, sumInc, nMul, nUpd, nAdd, Ft.C15.iaddEv, strip_compute, h]

/-- each operator of the innermost statement comes with its own `incCount` calls — `*`: `payload_mul`;
    `*=`: `payload_mul`, `payload_update`; `+`: `payload_add`; `<<=`: `payload_update`; `+=`: `payload_update`,
    and `payload_add` on an accumulator that is not 0 — so each block is balanced (closed lists, evaluated) -/
theorem Bal.leaf (b : Body) (zt : ATree) (ops : List Operand) : Bal (leafBody b zt ops).2 := by
  apply leafBody_ind Bal Bal.nil (fun _ _ => Bal.append) ?_ ?_ ?_ ?_ Bal.iaddEv
  · unfold Bal; decide +kernel
  · unfold Bal; decide +kernel
  · unfold Bal; decide +kernel
  · unfold Bal; decide +kernel

theorem Bal.asserts (v : String) (asrt : List KEv) (h : ∀ e ∈ asrt, ∃ d ins, e = KEv.assertShape v d ins) : Bal asrt := by
  induction asrt with
  | nil => exact Bal.nil
  | cons e es ih =>
    obtain ⟨d, ins, rfl⟩ := h e List.mem_cons_self
    exact Bal.append (a := [KEv.assertShape v d ins]) ⟨rfl, rfl, rfl⟩ (ih (fun e he => h e (List.mem_cons_of_mem _ he)))

theorem runK_bal (cfg : KCfg) (loops zr : List String) (zt : ATree) (ops : List Operand) :
    Bal (runK cfg loops zr zt ops).2 := by
  apply runK_ind cfg false Bal (fun _ => Bal) Bal.nil Bal.leaf (fun _ => Bal.nil) (fun _ _ _ => Bal.append)
    ?_ ?_ (fun v ins => ⟨rfl, rfl, rfl⟩) ?_ _ _ _ _ (fun h => nomatch h)
  · exact fun v c pos inner h => Bal.append (Bal.append (a := [.call (.addUse v c pos "iter" none), .body v])
      ⟨rfl, rfl, rfl⟩ h) (b := [.call (.incIter v)]) ⟨rfl, rfl, rfl⟩
  · exact fun _ v inner h => Bal.append (Bal.append (a := [.body v]) ⟨rfl, rfl, rfl⟩ h)
      (b := [.call (.incIter v)]) ⟨rfl, rfl, rfl⟩
  · exact fun v inner h => Bal.append (Bal.append (a := [.call (.registerRank v)]) ⟨rfl, rfl, rfl⟩ h)
      (b := [.call (.endIter v)]) ⟨rfl, rfl, rfl⟩

def UB (evs : List KEv) : Prop := ∀ r, nUse r "iter" (callsOf evs) = nBody r evs

theorem UB.nil : UB [] := fun _ => rfl

theorem UB.append {a b : List KEv} (ha : UB a) (hb : UB b) : UB (a ++ b) := by
  intro r
  rw [callsOf_append, nUse_append, ha r, hb r]
  simp only [nBody, List.countP_append]

theorem UB.leaf (b : Body) (zt : ATree) (ops : List Operand) : UB (leafBody b zt ops).2 := by
  apply leafBody_ind UB UB.nil (fun _ _ => UB.append) (fun _ => rfl) (fun _ => rfl) (fun _ => rfl) (fun _ => rfl)
  intro old r
  unfold iaddEv
  split <;> rfl

theorem UB.iterEv (v : String) (c pos : Int) (inner : List KEv) (h : UB inner) : UB (iterEv v c pos inner) := by
  refine UB.append (UB.append (a := [.call (.addUse v c pos "iter" none), .body v]) ?_ h)
    (b := [.call (.incIter v)]) (fun _ => rfl)
  -- the one `addUse` against the one `body`
  intro r
  show nUse r "iter" [.addUse v c pos "iter" none] = _
  rw [nUse_addUse]
  simp [nBody, List.countP_cons]

theorem runK_ub (cfg : KCfg) (loops zr : List String) (zt : ATree) (ops : List Operand)
    (hU : ∀ o ∈ ops, o.uShape = none) : UB (runK cfg loops zr zt ops).2 := by
  apply runK_ind cfg true UB (fun _ => UB) UB.nil UB.leaf (fun _ => UB.nil) (fun _ _ _ => UB.append)
    (fun v c pos inner h => UB.iterEv v c pos inner h) (fun h => by cases h) (fun v ins _ => rfl)
  · intro v inner hi
    exact UB.append (UB.append (a := [.call (.registerRank v)]) (fun _ => rfl) hi)
      (b := [.call (.endIter v)]) (fun _ => rfl)
  · intro _; exact hU

def regsAfter (regd : List String) : List MOp → List String
  | [] => regd
  | .registerRank r :: rest => regsAfter (r :: regd) rest
  | _ :: rest => regsAfter regd rest

theorem regsAfter_mono (x : String) : ∀ (a : List MOp) (regd : List String), regd.contains x = true →
    (regsAfter regd a).contains x = true := by
  intro a
  induction a with
  | nil => intro regd h; exact h
  | cons op a ih =>
    intro regd h
    cases op with
    | registerRank r => exact ih _ (by rw [List.contains_cons, h, Bool.or_true])
    | _ => exact ih regd h

theorem safeB_append : ∀ (a b : List MOp) (regd : List String),
    safeB regd (a ++ b) = (safeB regd a && safeB (regsAfter regd a) b) := by
  intro a
  induction a with
  | nil => intro b regd; rfl
  | cons op a ih =>
    intro b regd
    cases op with
    | registerRank r => exact ih b _
    | incCount l k n => exact ih b _
    | addUse r c pos t itn =>
      cases itn with
      | none => simp only [List.cons_append, safeB, regsAfter, ih, Bool.and_assoc]
      | some l => rfl
    | incIter r => simp only [List.cons_append, safeB, regsAfter, ih, Bool.and_assoc]
    | endIter r => simp only [List.cons_append, safeB, regsAfter, ih, Bool.and_assoc]
    | _ => rfl

/-- a closed (sub-)kernel is safe from any set of registered ranks -/
def Safe (evs : List KEv) : Prop := ∀ regd, safeB regd (callsOf evs) = true
/-- the inside of the loop at `v` is safe once `v` is registered -/
def SafeIn (v : String) (evs : List KEv) : Prop := ∀ regd, regd.contains v = true → safeB regd (callsOf evs) = true

theorem Safe.nil : Safe [] := fun _ => rfl

theorem SafeIn.append {v : String} {a b : List KEv} (ha : SafeIn v a) (hb : SafeIn v b) : SafeIn v (a ++ b) := by
  intro regd h
  rw [callsOf_append, safeB_append, ha regd h, hb _ (regsAfter_mono v _ regd h)]; rfl

theorem Safe.append {a b : List KEv} (ha : Safe a) (hb : Safe b) : Safe (a ++ b) := by
  intro regd
  rw [callsOf_append, safeB_append, ha regd, hb _]; rfl

theorem Safe.toIn {v : String} {a : List KEv} (h : Safe a) : SafeIn v a := fun regd _ => h regd

theorem SafeIn.of_contains {v : String} {evs : List KEv}
    (h : ∀ regd, safeB regd (callsOf evs) = (regd.contains v && true)) : SafeIn v evs := by
  intro regd hv; rw [h, hv]; rfl

theorem Safe.leaf (b : Body) (zt : ATree) (ops : List Operand) : Safe (leafBody b zt ops).2 := by
  apply leafBody_ind Safe Safe.nil (fun _ _ => Safe.append) (fun _ => rfl) (fun _ => rfl) (fun _ => rfl)
    (fun _ => rfl)
  intro old regd
  unfold iaddEv
  split <;> rfl

theorem runK_safe (cfg : KCfg) (loops zr : List String) (zt : ATree) (ops : List Operand) :
    Safe (runK cfg loops zr zt ops).2 := by
  apply runK_ind cfg false Safe SafeIn Safe.nil Safe.leaf (fun _ _ _ => rfl) (fun _ _ _ => SafeIn.append)
    ?_ ?_ (fun v ins _ _ => rfl) ?_ _ _ _ _ (fun h => nomatch h)
  · exact fun v c pos inner h => SafeIn.append (SafeIn.append (a := [.call (.addUse v c pos "iter" none), .body v])
      (.of_contains fun _ => rfl) h.toIn) (b := [.call (.incIter v)]) (.of_contains fun _ => rfl)
  · exact fun _ v inner h => SafeIn.append (SafeIn.append (a := [.body v]) (fun _ _ => rfl) h.toIn)
      (b := [.call (.incIter v)]) (.of_contains fun _ => rfl)
  · -- `registerRank v` puts `v` among the registered ranks for the inside and for the closing `endIter v`
    intro v inner hi regd
    have hv : (v :: regd).contains v = true := by simp
    have := SafeIn.append hi (b := [.call (.endIter v)]) (.of_contains fun _ => rfl) (v :: regd) hv
    rw [List.append_assoc, callsOf_append]
    exact this

/-- the assertion cannot fail when the output was created with a shape -/
theorem assertsOk_of_declared (wtr : String → Bool) (b : Body) (loops zr : List String) (zt : ATree) (ops : List Operand) :
    assertsOk wtr (runK { declared := true, body := b } loops zr zt ops).2 = true := by
  have happ : ∀ a b, assertsOk wtr a = true → assertsOk wtr b = true → assertsOk wtr (a ++ b) = true := by
    intro a b ha hb
    unfold assertsOk at *
    rw [List.all_append, ha, hb]; rfl
  apply runK_ind _ false (fun evs => assertsOk wtr evs = true) (fun _ evs => assertsOk wtr evs = true) rfl
  · intro b zt ops
    apply leafBody_ind (fun evs => assertsOk wtr evs = true) rfl happ rfl rfl rfl rfl
    intro old
    unfold iaddEv
    split <;> rfl
  · exact fun _ => rfl
  · exact fun _ => happ
  · exact fun v c pos inner hi => happ _ _ (happ _ _ rfl hi) rfl
  · exact fun _ v inner hi => happ _ _ (happ _ _ rfl hi) rfl
  · exact fun v ins => rfl
  · exact fun v inner hi => happ _ _ (happ _ _ rfl hi) rfl
  · intro h; cases h

/-- the assertion cannot fail when no destination's write trace is being collected -/
theorem assertsOk_of_untraced (wtr : String → Bool) (hw : ∀ v, wtr v = false) (evs : List KEv) :
    assertsOk wtr evs = true := by
  unfold assertsOk
  rw [List.all_eq_true]
  intro e _
  cases e with
  | assertShape v d ins => simp [hw v]
  | _ => rfl

theorem inBody_of_safe : ∀ (ops : List MOp) (regd : List String), safeB regd ops = true → ∀ op ∈ ops, op.inBody = true := by
  intro ops
  induction ops with
  | nil => intro _ _ op h; cases h
  | cons o ops ih =>
    intro regd hs op hop
    -- the calls `safeB` admits are loop-nest calls; what it asks of the rest of the list
    have hcons : o.inBody = true ∧ ∃ regd', safeB regd' ops = true := by
      cases o with
      | registerRank r => exact ⟨rfl, _, hs⟩
      | incCount l k n => exact ⟨rfl, _, hs⟩
      | addUse r c pos t itn =>
        cases itn with
        | some l => cases hs
        | none => exact ⟨rfl, _, (Bool.and_eq_true_iff.1 hs).2⟩
      | incIter r => exact ⟨rfl, _, (Bool.and_eq_true_iff.1 hs).2⟩
      | endIter r => exact ⟨rfl, _, (Bool.and_eq_true_iff.1 hs).2⟩
      | _ => cases hs
    rcases List.mem_cons.1 hop with rfl | h
    · exact hcons.1
    · obtain ⟨regd', hs'⟩ := hcons.2
      exact ih regd' hs' op h

theorem kernel_calls_inBody (k : Kernel) (z : ATree) (ops : List Operand) :
    ∀ op ∈ callsOf (kernelEvents k z ops), op.inBody = true :=
  inBody_of_safe _ [] (runK_safe _ _ _ _ _ [])

/-- a rank that is never registered is never used -/
theorem nUse_zero_of_safe (r ty : String) : ∀ (ops : List MOp) (regd : List String), safeB regd ops = true →
    regd.contains r = false → registers r ops = false → nUse r ty ops = 0 := by
  intro ops
  induction ops with
  | nil => intro _ _ _ _; rfl
  | cons o ops ih =>
    intro regd hs hr hreg
    rw [← List.singleton_append, registers_append, Bool.or_eq_false_iff] at hreg
    rw [← List.singleton_append, nUse_append]
    cases o with
    | registerRank q =>
      have hq : r ≠ q := by
        intro e; rw [e, registers_registerRank, beq_self_eq_true] at hreg; cases hreg.1
      rw [ih (q :: regd) hs (by rw [List.contains_cons, hr, Bool.or_false]; exact beq_eq_false_iff_ne.2 hq) hreg.2]
      rfl
    | addUse q c pos t itn =>
      cases itn with
      | some l => cases hs
      | none =>
        have hs' : regd.contains q = true ∧ safeB regd ops = true := Bool.and_eq_true_iff.1 hs
        -- `q` is registered and `r` is not
        have hq : (q, t) ≠ (r, ty) := by
          intro e; rw [(Prod.mk.inj e).1, hr] at hs'; cases hs'.1
        rw [ih _ hs'.2 hr hreg.2, nUse_addUse, if_neg hq]
    | incIter q => rw [ih _ (Bool.and_eq_true_iff.1 hs).2 hr hreg.2]; rfl
    | endIter q => rw [ih _ (Bool.and_eq_true_iff.1 hs).2 hr hreg.2]; rfl
    | incCount l k n => rw [ih _ hs hr hreg.2]; rfl
    | _ => cases hs

end Ft.C15
