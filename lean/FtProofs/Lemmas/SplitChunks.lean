/-
  Helper lemmas for C08, position space: the boundaries chosen by `splitEqual` / `splitUnEqual`
  cut the active elements into consecutive chunks, and the non-uniform split at those boundaries
  (halo 0) returns exactly those chunks.
-/
import FtProofs.Lemmas.SplitSpec
namespace Ft

section chunks
variable {π : Type}

def headCoord (c : Fib Int π) : Int :=
  match c with
  | e :: _ => e.1
  | [] => 0

/-- boundaries of a chunking whose first chunk is declared to start at `s` -/
def boundsOf (s : Int) (cs : List (Fib Int π)) : List Int :=
  match cs with
  | [] => []
  | _ :: rest => s :: rest.map headCoord

/-- where the chunk in front of `rest` ends: at the first coordinate of the next chunk, or at the
    active end -/
def nextStart (ae : Int) : List (Fib Int π) → Int
  | (e :: _) :: _ => e.1
  | _ => ae

theorem chunkPartsFrom_cons (ae : Int) (rel : Bool) (s : Int) (c : Fib Int π) (rest : List (Fib Int π)) :
    chunkPartsFrom ae rel s (c :: rest) =
      mkPart rel s s (nextStart ae rest) c :: chunkPartsFrom ae rel (nextStart ae rest) rest := by
  cases rest with
  | nil => rfl
  | cons c1 r => cases c1 <;> rfl

theorem boundsOf_cons (ae s : Int) (c : Fib Int π) (rest : List (Fib Int π)) (hne : ∀ c' ∈ rest, c' ≠ []) :
    boundsOf s (c :: rest) = s :: boundsOf (nextStart ae rest) rest := by
  cases rest with
  | nil => rfl
  | cons c1 r =>
    cases c1 with
    | nil => exact absurd rfl (hne [] (List.mem_cons_self ..))
    | cons e t => rfl

theorem boundsOf_head (ae : Int) (rest : List (Fib Int π)) :
    (boundsOf (nextStart ae rest) rest)[0]? = some (nextStart ae rest) ∨
      (boundsOf (nextStart ae rest) rest)[0]? = none ∧ nextStart ae rest = ae := by
  cases rest with
  | nil => exact Or.inr ⟨rfl, rfl⟩
  | cons c1 r => exact Or.inl rfl

theorem nextStart_bounds (ae : Int) (c : Fib Int π) (rest : List (Fib Int π)) (hne : ∀ c' ∈ rest, c' ≠ [])
    (hs : Sorted (c ++ rest.flatten)) (hlt : ∀ x ∈ c ++ rest.flatten, x.1 < ae) :
    (∀ x ∈ c, x.1 < nextStart ae rest) ∧ (∀ y ∈ rest.flatten, nextStart ae rest ≤ y.1) ∧
      nextStart ae rest ≤ ae := by
  cases rest with
  | nil => exact ⟨fun x hx => hlt x (List.mem_append_left _ hx), fun y hy => (by cases hy), Int.le_refl _⟩
  | cons c1 r =>
    cases c1 with
    | nil => exact absurd rfl (hne [] (List.mem_cons_self ..))
    | cons e t =>
      have hp := List.pairwise_append.1 hs
      have he : e ∈ ((e :: t) :: r).flatten := List.mem_append_left _ (List.mem_cons_self ..)
      refine ⟨fun x hx => hp.2.2 x hx e he, fun y hy => ?_, Int.le_of_lt (hlt e (List.mem_append_right _ he))⟩
      rcases List.mem_cons.1 (show y ∈ e :: (t ++ r.flatten) from hy) with rfl | hy
      · exact Int.le_refl _
      · exact Int.le_of_lt (Sorted.head_lt (show Sorted (e :: (t ++ r.flatten)) from hp.2.1) y hy)

theorem nuSpec_cons (s : Int) (B : List Int) (pre post as ae : Int) (rel : Bool) (l : Fib Int π)
    (b : Fib Int π) (hb : l.filter (fun e => nuMemb (s :: B) pre post as ae 0 e.1) = b) (hne : b ≠ []) :
    nuSpec (s :: B) pre post as ae rel l =
      mkPart rel s (max s as) (nuHi (s :: B) ae 0) b :: nuSpec B pre post as ae rel l := by
  unfold nuSpec
  rw [List.length_cons, List.range_succ_eq_map, List.filterMap_cons, List.filterMap_map]
  simp only [hb, List.isEmpty_eq_false_iff.2 hne, Function.comp_def, List.getD_cons_succ, List.getD_cons_zero,
    Bool.false_eq_true, if_false]
  rfl

theorem nuMemb_zero (s nxt as ae : Int) (B : List Int) (hs : as ≤ s) (hlt : s < nxt) (hle : nxt ≤ ae)
    (hB : B[0]? = some nxt ∨ B[0]? = none ∧ nxt = ae) (x : Int) :
    nuMemb (s :: B) 0 0 as ae 0 x =
      (decide (x < nxt) && (decide (as ≤ x) && decide (x < ae) && decide (s ≤ x))) := by
  rw [Bool.eq_iff_iff, nuMemb_iff]
  simp only [List.getElem?_cons_zero, List.getElem?_cons_succ, Option.some.injEq, exists_eq_left',
    Bool.and_eq_true, decide_eq_true_eq]
  rcases hB with h | ⟨h, rfl⟩
  · simp only [h, Option.some.injEq, forall_eq']; omega
  · simp only [h, reduceCtorEq, false_imp_iff, implies_true, true_and]; omega

theorem nuHi_zero (s nxt ae : Int) (B : List Int) (hle : nxt ≤ ae)
    (hB : B[0]? = some nxt ∨ B[0]? = none ∧ nxt = ae) : nuHi (s :: B) ae 0 = nxt := by
  unfold nuHi
  rw [List.getElem?_cons_succ]
  rcases hB with h | ⟨h, rfl⟩ <;> rw [h]
  exact Int.min_eq_left hle

theorem nuSpec_chunks (as ae : Int) (rel : Bool) (l : Fib Int π) (hl : Sorted l) :
    ∀ (cs : List (Fib Int π)) (s : Int), (∀ c ∈ cs, c ≠ []) → as ≤ s →
      l.filter (fun e => decide (as ≤ e.1) && decide (e.1 < ae) && decide (s ≤ e.1)) = cs.flatten →
      nuSpec (boundsOf s cs) 0 0 as ae rel l = chunkPartsFrom ae rel s cs := by
  intro cs
  induction cs with
  | nil => intro s _ _ _; rfl
  | cons c rest ih =>
    intro s hne hs hflat
    have hrest : ∀ c' ∈ rest, c' ≠ [] := fun c' h => hne c' (List.mem_cons_of_mem _ h)
    rw [List.flatten_cons] at hflat
    have hFs : Sorted (c ++ rest.flatten) := by
      rw [← hflat]; exact List.Pairwise.sublist List.filter_sublist hl
    have hFmem : ∀ x ∈ c ++ rest.flatten, (as ≤ x.1 ∧ x.1 < ae) ∧ s ≤ x.1 := by
      intro x hx
      rw [← hflat, List.mem_filter] at hx
      simpa only [Bool.and_eq_true, decide_eq_true_eq] using hx.2
    obtain ⟨hlt, hge, hle⟩ := nextStart_bounds ae c rest hrest hFs (fun x hx => (hFmem x hx).1.2)
    obtain ⟨x0, hx0⟩ := List.exists_mem_of_ne_nil c (hne c (List.mem_cons_self ..))
    have hs' : s < nextStart ae rest :=
      Int.lt_of_le_of_lt (hFmem x0 (List.mem_append_left _ hx0)).2 (hlt x0 hx0)
    have hB := boundsOf_head ae rest
    -- the active elements from `s` on are `c` followed by the later chunks; the next boundary cuts there
    have hb : l.filter (fun e => nuMemb (s :: boundsOf (nextStart ae rest) rest) 0 0 as ae 0 e.1) = c := by
      rw [List.filter_congr (fun x _ => nuMemb_zero s _ as ae _ hs hs' hle hB x.1),
        filter_and_of_eq (fun e => decide (e.1 < nextStart ae rest)) hflat, List.filter_append,
        List.filter_eq_self.2 (fun x hx => decide_eq_true (hlt x hx)),
        List.filter_eq_nil_iff.2 (fun y hy h => Int.not_lt.2 (hge y hy) (of_decide_eq_true h)), List.append_nil]
    have hflat' : l.filter (fun e => decide (as ≤ e.1) && decide (e.1 < ae) && decide (nextStart ae rest ≤ e.1)) =
        rest.flatten := by
      rw [List.filter_congr (q := fun e => decide (nextStart ae rest ≤ e.1) &&
          (decide (as ≤ e.1) && decide (e.1 < ae) && decide (s ≤ e.1))) (fun x _ => by
            rw [Bool.eq_iff_iff]; simp only [Bool.and_eq_true, decide_eq_true_eq]; omega),
        filter_and_of_eq (fun e => decide (nextStart ae rest ≤ e.1)) hflat, List.filter_append,
        List.filter_eq_nil_iff.2 (fun x hx h => Int.not_le.2 (hlt x hx) (of_decide_eq_true h)),
        List.filter_eq_self.2 (fun y hy => decide_eq_true (hge y hy)), List.nil_append]
    rw [boundsOf_cons ae s c rest hrest, nuSpec_cons s _ 0 0 as ae rel l c hb (hne c (List.mem_cons_self ..)),
      nuHi_zero s _ ae _ hle hB, Int.max_eq_left hs, chunkPartsFrom_cons,
      ih (nextStart ae rest) hrest (Int.le_trans hs (Int.le_of_lt hs')) hflat']

end chunks
section unequal
variable {π : Type}

theorem takeChunks_nil {α : Type} (ss : List Nat) : takeChunks ss ([] : List α) = [] := by
  cases ss <;> simp [takeChunks]

theorem takeChunks_cons_cons {α : Type} (s : Nat) (ss : List Nat) (a : α) (t : List α) :
    takeChunks (s :: ss) (a :: t) = (a :: t).take s :: takeChunks ss ((a :: t).drop s) := by
  rw [takeChunks]; simp

theorem takeChunks_nonempty {α : Type} : ∀ (ss : List Nat) (l : List α), (∀ s ∈ ss, 1 ≤ s) →
    ∀ c ∈ takeChunks ss l, c ≠ [] := by
  intro ss
  induction ss with
  | nil =>
    intro l _ c hc
    unfold takeChunks at hc
    cases l with
    | nil => simp at hc
    | cons a t => simp at hc; subst hc; simp
  | cons s ss ih =>
    intro l hpos c hc
    unfold takeChunks at hc
    cases l with
    | nil => simp at hc
    | cons a t =>
      simp only [List.isEmpty_cons, Bool.false_eq_true, if_false, List.mem_cons] at hc
      rcases hc with rfl | hc
      · have := hpos s (List.mem_cons_self ..)
        obtain ⟨m, rfl⟩ : ∃ m, s = m + 1 := ⟨s - 1, by omega⟩
        simp
      · exact ih _ (fun s' hs' => hpos s' (List.mem_cons_of_mem _ hs')) c hc

theorem takeChunks_flatten {α : Type} : ∀ (ss : List Nat) (l : List α), (takeChunks ss l).flatten = l := by
  intro ss
  induction ss with
  | nil =>
    intro l
    unfold takeChunks
    cases l <;> simp
  | cons s ss ih =>
    intro l
    unfold takeChunks
    cases l with
    | nil => simp
    | cons a t =>
      simp only [List.isEmpty_cons, Bool.false_eq_true, if_false, List.flatten_cons, ih,
        List.take_append_drop]

theorem unequalLoop_done (sizes : List Int) (as : Int) (l : Fib Int π) (off j base : Nat)
    (hoff : 0 < off) (h : j = sizes.length) : unequalLoop sizes as (l.zipIdx off) j base = [] := by
  cases l with
  | nil => rfl
  | cons a t =>
    rw [List.zipIdx_cons]
    unfold unequalLoop
    have : ¬ off = 0 := by omega
    simp [h, this]

/-- in the middle of a chunk: `r` more elements are passed over before the next boundary is recorded -/
theorem unequalLoop_chunks (sizes : List Int) (hpos : ∀ s ∈ sizes, 1 ≤ s) (as : Int) :
    ∀ (l : Fib Int π) (off j base r : Nat), j < sizes.length → 0 < off →
      (off : Int) + r = base + sizes.getD j 0 →
      unequalLoop sizes as (l.zipIdx off) j base =
        (takeChunks ((sizes.drop (j + 1)).map Int.toNat) (l.drop r)).map headCoord := by
  intro l
  induction l with
  | nil => intro off j base r _ _ _; simp [unequalLoop, takeChunks_nil]
  | cons x t ih =>
    intro off j base r hj hoff hr
    rw [List.zipIdx_cons]
    unfold unequalLoop
    rw [if_neg (Nat.ne_of_gt hoff), if_neg (Nat.ne_of_lt hj)]
    cases r with
    | zero =>
      rw [if_pos (by omega), List.drop_zero]
      by_cases hlast : j + 1 = sizes.length
      · rw [unequalLoop_done sizes as t (off + 1) (j + 1) off (Nat.succ_pos _) hlast,
          List.drop_eq_nil_of_le (Nat.le_of_eq hlast.symm)]
        rfl
      · have hj1 : j + 1 < sizes.length := Nat.lt_of_le_of_ne hj hlast
        have hsz : 1 ≤ sizes[j + 1] := hpos _ (List.getElem_mem hj1)
        obtain ⟨m, hm⟩ : ∃ m, sizes[j + 1].toNat = m + 1 := ⟨sizes[j + 1].toNat - 1, by omega⟩
        rw [ih (off + 1) (j + 1) off m hj1 (Nat.succ_pos _) (by rw [getD_eq_getElem sizes (j + 1) hj1]; omega),
          List.drop_eq_getElem_cons hj1, List.map_cons, takeChunks_cons_cons, List.map_cons, hm,
          List.drop_succ_cons]
        rfl
    | succ r =>
      rw [if_neg (by omega), List.drop_succ_cons]
      exact ih (off + 1) j base r hj (Nat.succ_pos _) (by omega)

/-- `splitUnEqual`'s boundaries are those of the chunking by the sizes (the empty size list included:
    one chunk with everything) -/
theorem unequalBounds_chunks (sizes : List Int) (hpos : ∀ s ∈ sizes, 1 ≤ s)
    (as : Int) (act : Fib Int π) :
    unequalBounds sizes as act = boundsOf as (takeChunks (sizes.map Int.toNat) act) := by
  unfold unequalBounds
  cases act with
  | nil => simp [unequalLoop, takeChunks_nil, boundsOf]
  | cons x t =>
    rw [List.zipIdx_cons]
    unfold unequalLoop
    simp only [if_true]
    cases sizes with
    | nil =>
      rw [unequalLoop_done [] as t (0 + 1) 0 0 (Nat.succ_pos _) rfl]
      simp [takeChunks, boundsOf]
    | cons s0 ss =>
      have hs0 : 1 ≤ s0 := hpos s0 (List.mem_cons_self ..)
      obtain ⟨m, hm⟩ : ∃ m, s0.toNat = m + 1 := ⟨s0.toNat - 1, by omega⟩
      rw [unequalLoop_chunks (s0 :: ss) hpos as t (0 + 1) 0 0 m (Nat.succ_pos _) (Nat.succ_pos _)
        (by show ((0 + 1 : Nat) : Int) + m = (0 : Nat) + s0; omega),
        List.map_cons, takeChunks_cons_cons, hm, List.drop_succ_cons]
      rfl

end unequal

section equalAsUnequal
variable {π : Type}

theorem chunksOf_nil {α : Type} (n : Nat) : chunksOf n ([] : List α) = [] := by
  rw [chunksOf]; simp

theorem chunksOf_cons {α : Type} (n : Nat) (l : List α) (hn : n ≠ 0) (hl : l ≠ []) :
    chunksOf n l = l.take n :: chunksOf n (l.drop n) := by
  rw [chunksOf]
  have : ¬ (n = 0 ∨ l = []) := fun h => h.elim hn hl
  simp only [this, dite_false]

theorem chunksOf_eq_takeChunks {α : Type} (n : Nat) (hn : n ≠ 0) (l : List α) :
    ∀ m, l.length ≤ m → chunksOf n l = takeChunks (List.replicate m n) l := by
  fun_induction chunksOf n l with
  | case1 l h =>
    intro m _
    rcases h with h | rfl
    · exact absurd h hn
    · exact (takeChunks_nil _).symm
  | case2 l h ih =>
    intro m hm
    obtain ⟨a, t, rfl⟩ := List.exists_cons_of_ne_nil (fun e => h (Or.inr e))
    obtain ⟨m, rfl⟩ : ∃ m', m = m' + 1 := ⟨m - 1, by simp only [List.length_cons] at hm; omega⟩
    rw [List.replicate_succ, takeChunks_cons_cons, ih m (by simp only [List.length_drop]; omega)]

theorem chunksOf_nonempty {α : Type} (n : Nat) (hn : n ≠ 0) (l : List α) : ∀ c ∈ chunksOf n l, c ≠ [] := by
  rw [chunksOf_eq_takeChunks n hn l _ (Nat.le_refl _)]
  exact takeChunks_nonempty _ l fun s hs => by
    rw [List.eq_of_mem_replicate hs]; exact Nat.pos_of_ne_zero hn

theorem chunksOf_flatten {α : Type} (n : Nat) (hn : n ≠ 0) (l : List α) : (chunksOf n l).flatten = l := by
  rw [chunksOf_eq_takeChunks n hn l _ (Nat.le_refl _), takeChunks_flatten]

/-- past the first element: the last boundary was recorded at position `base`, a multiple of `step`
    less than `step` positions back, so "`step` positions after `base`" and "position divisible by
    `step`" select the same elements -/
theorem unequalLoop_replicate (step as : Int) (N : Nat) :
    ∀ (l : Fib Int π) (off j base : Nat), step ∣ (base : Int) → base < off → (off : Int) ≤ base + step →
      j < off → off + l.length ≤ N →
      unequalLoop (List.replicate N step) as (l.zipIdx off) j base =
        (l.zipIdx off).filterMap (fun ei =>
          if ei.2 = 0 then some as else if (ei.2 : Int) % step = 0 then some ei.1.1 else none) := by
  intro l
  induction l with
  | nil => intro off j base _ _ _ _ _; rfl
  | cons x t ih =>
    intro off j base hb h1 h2 hj hN
    simp only [List.length_cons] at hN
    have hoff : ¬ off = 0 := Nat.ne_of_gt (Nat.zero_lt_of_lt h1)
    have hjN : j < N := Nat.lt_of_lt_of_le hj (Nat.le_trans (Nat.le_add_right _ _) hN)
    rw [List.zipIdx_cons, List.filterMap_cons]
    unfold unequalLoop
    -- at this position "divisible by `step`" (equal split) is "`step` positions after `base`" (unequal split)
    have hmod : (off : Int) % step = 0 ↔ (off : Int) - base = step :=
      emod_eq_zero_iff_sub_eq hb (Int.ofNat_lt.2 h1) h2
    simp only [hoff, if_false, List.length_replicate, Nat.ne_of_lt hjN, List.getD_eq_getElem?_getD,
      List.getElem?_replicate, hjN, if_true, Option.getD_some, hmod]
    by_cases hd : (off : Int) - base = step
    · simp only [hd, if_true]
      rw [ih (off + 1) (j + 1) off (by rw [show (off : Int) = base + step by omega]; exact Int.dvd_add hb (Int.dvd_refl _))
        (Nat.lt_succ_self _) (by omega) (by omega) (by omega)]
    · simp only [hd, if_false]
      exact ih (off + 1) j base hb (Nat.lt_succ_of_lt h1) (by omega) (Nat.lt_succ_of_lt hj) (by omega)

theorem equalBounds_eq_unequalBounds (step as : Int) (hstep : 1 ≤ step) (act : Fib Int π) :
    equalBounds step as act = unequalBounds (List.replicate act.length step) as act := by
  unfold equalBounds unequalBounds
  cases act with
  | nil => rfl
  | cons x t =>
    rw [List.zipIdx_cons, List.filterMap_cons]
    unfold unequalLoop
    simp only [if_true]
    rw [unequalLoop_replicate step as _ t (0 + 1) 0 0 (Int.dvd_zero _) (Nat.succ_pos _) (by omega)
      (Nat.succ_pos _) (by simp only [List.length_cons]; omega)]

theorem splitEqualIter_eq_unEqual (step pre post as ae : Int) (rel : Bool) (elems : Fib Int π)
    (hstep : 1 ≤ step) :
    splitEqualIter step pre post as ae rel elems =
      splitUnEqualIter (List.replicate (iterActive as ae elems).length step) pre post as ae rel elems := by
  unfold splitEqualIter splitUnEqualIter
  rw [equalBounds_eq_unequalBounds step as hstep]

end equalAsUnequal

section counting
variable {π : Type}

theorem chunksOf_length_le {α : Type} (k : Nat) (l : List α) :
    ∀ m : Nat, l.length ≤ m * k → (chunksOf k l).length ≤ m := by
  fun_induction chunksOf k l with
  | case1 l h => intro m _; simp
  | case2 l h ih =>
    intro m hm
    have hk : k ≠ 0 := fun e => h (Or.inl e)
    have hl : l ≠ [] := fun e => h (Or.inr e)
    have hpos : 0 < l.length := List.length_pos_iff.2 hl
    cases m with
    | zero => rw [Nat.zero_mul] at hm; omega
    | succ m' =>
      simp only [List.length_cons]
      have := ih m' (by
        rw [List.length_drop]
        have : (m' + 1) * k = m' * k + k := Nat.succ_mul m' k
        omega)
      omega

theorem chunkPartsFrom_length (ae : Int) (rel : Bool) :
    ∀ (cs : List (Fib Int π)) (s : Int), (chunkPartsFrom ae rel s cs).length = cs.length := by
  intro cs
  induction cs with
  | nil => intro s; rfl
  | cons c rest ih => intro s; simp [chunkPartsFrom, ih]

end counting

end Ft
