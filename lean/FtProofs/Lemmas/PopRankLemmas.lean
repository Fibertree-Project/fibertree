/-
  Helpers for C02: the rank bookkeeping of populate loops.  A transformer that only *adds* fibers
  below the fiber it is applied to (it keeps every existing fiber) keeps the mirror if the bookkeeping
  appends exactly the new fibers (`popRanksR`); nested populate loops are such a transformer.
-/
import FtProofs.Lemmas.RankLemmas
import FtProofs.C05
set_option linter.unusedSectionVars false
namespace Ft
open StrictTotal
open List

section
variable {κ ν : Type} [LT κ] [DecidableRel (α := κ) (· < ·)] [DecidableEq κ] [StrictTotal κ]

theorem mem_pathsAt_succ (d : Nat) (f : Tree κ ν (d + 1)) (i : Nat) (p : List κ) :
    p ∈ pathsAt (d + 1) f (i + 1) ↔
      ∃ e ∈ (show List (κ × Tree κ ν d) from f), ∃ cs ∈ pathsAt d e.2 i, p = e.1 :: cs := by
  rw [pathsAt_succ, List.mem_flatMap]
  constructor
  · rintro ⟨e, he, hp⟩
    obtain ⟨cs, hcs, rfl⟩ := List.mem_map.1 hp
    exact ⟨e, he, cs, hcs, rfl⟩
  · rintro ⟨e, he, cs, hcs, rfl⟩
    exact ⟨e, he, List.mem_map.2 ⟨cs, hcs, rfl⟩⟩

/-- in a well-formed tree no fiber is found twice -/
theorem pathsAt_nodup : ∀ (d : Nat) (t : Tree κ ν d), WF d t → ∀ i, (pathsAt d t i).Nodup := by
  intro d
  induction d with
  | zero => intro _ _ _; exact List.nodup_nil
  | succ d ih =>
    intro f h i
    cases i with
    | zero => exact List.pairwise_singleton _ _
    | succ i =>
      rw [pathsAt_succ]
      unfold List.Nodup
      rw [List.pairwise_flatMap]
      refine ⟨fun e he => ?_, ?_⟩
      · exact List.Pairwise.map _ (fun a b hab hc => hab (List.cons.inj hc).2) (ih e.2 (h.sub e he) i)
      · -- paths under different elements differ in their first coordinate
        refine List.Pairwise.imp ?_ h.sorted
        intro a b hab x hx y hy hxy
        obtain ⟨x', _, rfl⟩ := List.mem_map.1 hx
        obtain ⟨y', _, rfl⟩ := List.mem_map.1 hy
        exact StrictTotal.irrefl _ ((List.cons.inj hxy).1 ▸ hab)

def idF : (d : Nat) → Tree κ ν (d + 1) → Tree κ ν (d + 1) × Outcome := fun _ f => (f, .ok)

theorem atPath_idF : ∀ (d : Nat) (t : Tree κ ν (d + 1)), WF (d + 1) t → ∀ q, (atPath idF d t q).1 = t := by
  intro d
  induction d with
  | zero => intro t _ q; cases q <;> rfl
  | succ d ih =>
    intro t h q
    cases q with
    | nil => rfl
    | cons c cs =>
      cases hl : lookup (show List (κ × Tree κ ν (d + 1)) from t) c with
      | none => rw [atPath_cons_none idF hl]
      | some s =>
        rw [atPath_cons_some idF hl, ih s (h.sub _ (mem_of_lookup_eq_some hl)) cs]
        exact map_key_id h.sorted hl

theorem locate_wf : ∀ (d : Nat) (t : Tree κ ν (d + 1)), WF (d + 1) t → ∀ (q : List κ) (d' : Nat) (s : Tree κ ν (d' + 1)),
    locate d t q = some ⟨d', s⟩ → WF (d' + 1) s := by
  intro d
  induction d with
  | zero =>
    intro t h q d' s hl
    cases q with
    | nil => cases hl; exact h
    | cons _ _ => cases hl
  | succ d ih =>
    intro t h q d' s hl
    cases q with
    | nil => cases hl; exact h
    | cons c cs =>
      cases hlk : lookup (show List (κ × Tree κ ν (d + 1)) from t) c with
      | none => rw [locate_cons_none hlk] at hl; cases hl
      | some s0 =>
        rw [locate_cons_some hlk] at hl
        exact ih s0 (h.sub _ (mem_of_lookup_eq_some hlk)) cs d' s hl

/-- **growth below a fiber**: a transformer applied at the fiber reached by `q` that keeps every fiber
    of the sub-tree it is applied to (it may add fibers) keeps the mirror, if the bookkeeping appends
    exactly the fibers that are new -/
theorem grow_mirror (F : (d : Nat) → Tree κ ν (d + 1) → Tree κ ν (d + 1) × Outcome)
    (d : Nat) (t : Tree κ ν (d + 1)) (R : RankLists κ) (q : List κ) (d' : Nat) (s : Tree κ ν (d' + 1))
    (h : WF (d + 1) t) (hm : Mirror (d + 1) t R) (hloc : locate d t q = some ⟨d', s⟩)
    (hwf' : WF (d' + 1) (F d' s).1)
    (hsub : ∀ j p, p ∈ pathsAt (d' + 1) s j → p ∈ pathsAt (d' + 1) (F d' s).1 j) :
    Mirror (d + 1) (atPath F d t q).1 (popRanksR R q d' s (F d' s).1) := by
  obtain ⟨hlen, hperm⟩ := hm
  have hs : WF (d' + 1) s := locate_wf d t h q d' s hloc
  refine ⟨by simp [popRanksR, hlen], fun i hi => ?_⟩
  unfold popRanksR
  rw [List.getD_mapIdx R _ [] (hlen ▸ hi)]
  -- the fibers at depth `i` before (the identity applied at `q`) and after
  have old := pathsAt_atPath_of_locate idF h hloc i
  rw [atPath_idF d t h q] at old
  refine List.Perm.trans ?_ (pathsAt_atPath_of_locate F h hloc i).symm
  by_cases hq : q.length < i
  · simp only [hq, if_true] at old ⊢
    have g := grow_perm (pathsAt (d' + 1) s (i - q.length)) (pathsAt (d' + 1) (F d' s).1 (i - q.length))
      (pathsAt_nodup (d' + 1) s hs _) (pathsAt_nodup (d' + 1) (F d' s).1 hwf' _) (hsub _)
    refine (((hperm i hi).trans old).append_right _).trans ?_
    rw [List.append_assoc, ← List.map_append]
    exact (g.symm.map _).append_left _
  · simp only [hq, if_false, List.append_nil] at old ⊢
    exact (hperm i hi).trans old

/-- an interior populate loop keeps every element of the destination: untouched if the source does not
    offer its coordinate, otherwise with the payload the body produced (an interior element that
    existed before the loop is never removed) -/
theorem populate_keeps {β : Type} [DecidableEq ν] (dflt : ν) (d : Nat)
    (body : κ → Tree κ ν (d + 1) → β → Tree κ ν (d + 1))
    (z : Tree κ ν (d + 2)) (src : Fib κ β) (hz : WF (d + 2) z) (hb : Sorted src)
    (e : κ × Tree κ ν (d + 1)) (he : e ∈ (show List (κ × Tree κ ν (d + 1)) from z)) :
    ∃ s', (e.1, s') ∈ (show List (κ × Tree κ ν (d + 1)) from (populate dflt (d + 1) body z src).1) ∧
      (s' = e.2 ∨ ∃ bp, (e.1, bp) ∈ src ∧ s' = body e.1 e.2 bp) := by
  have hl := (populate_struct (defaultTree dflt (d + 1)) (rmOf dflt (d + 1)) body
    (show List (κ × Tree κ ν (d + 1)) from z) src hz.sorted hb).2 e.1
  have hle : lookup (show List (κ × Tree κ ν (d + 1)) from z) e.1 = some e.2 := lookup_of_sorted_mem hz.sorted he
  unfold popExpect at hl
  cases hs : lookup src e.1 with
  | none =>
    rw [hs] at hl
    simp only at hl
    rw [hle] at hl
    exact ⟨e.2, mem_of_lookup_eq_some hl, Or.inl rfl⟩
  | some bp =>
    rw [hs] at hl
    simp only [popAt, hle, Option.isNone_some, Option.getD_some] at hl
    have hr : rmOf dflt (d + 1) false (body e.1 e.2 bp) = false := by simp [rmOf, rmFiber]
    rw [hr] at hl
    simp only [Bool.false_eq_true, if_false] at hl
    exact ⟨_, mem_of_lookup_eq_some hl, Or.inr ⟨bp, mem_of_lookup_eq_some hs, rfl⟩⟩

theorem insertIfMissing_mem {π : Type} (mk : π) (f : Fib κ π) (c : κ) (x : κ × π) (hx : x ∈ f) :
    x ∈ insertIfMissing mk f c := by
  unfold insertIfMissing
  cases posLookup f c with
  | some _ => exact hx
  | none => exact mem_insertAt.2 (Or.inr hx)

theorem popNest_keeps_paths [DecidableEq ν] (dflt : ν) (leafF : List κ → ν → ν → ν) (inner : List κ → Inner κ) :
    ∀ (d : Nat) (pre : List κ) (z a : Tree κ ν (d + 1)), WF (d + 1) z → WF (d + 1) a →
      ∀ j p, p ∈ pathsAt (d + 1) z j → p ∈ pathsAt (d + 1) (popNest dflt leafF inner d pre z a) j := by
  intro d
  induction d with
  | zero =>
    intro pre z a _ _ j p hp
    cases j with
    | zero => exact hp
    | succ j => rw [pathsAt_one_succ] at hp; cases hp
  | succ d ih =>
    intro pre z a hz ha j p hp
    cases j with
    | zero => exact hp
    | succ j =>
      obtain ⟨e, he, cs, hcs, rfl⟩ := (mem_pathsAt_succ (d + 1) z j p).1 hp
      simp only [popNest]
      obtain ⟨s', hs', hcase⟩ := populate_keeps dflt d
        (fun c (cur : Tree κ ν (d + 1)) (av : Tree κ ν (d + 1)) =>
          match inner (pre ++ [c]) with
          | .skip => cur
          | .touch c' => insertIfMissing (defaultTree dflt d) (show List (κ × Tree κ ν d) from cur) c'
          | .recurse => popNest dflt leafF inner d (pre ++ [c]) cur av) z
        (present dflt (d + 1) a) hz (present_sorted ha.sorted) e he
      refine (mem_pathsAt_succ (d + 1) _ j _).2 ⟨(e.1, s'), hs', cs, ?_, rfl⟩
      show cs ∈ pathsAt (d + 1) s' j
      rcases hcase with rfl | ⟨bp, hbp, rfl⟩
      · exact hcs
      · simp only
        cases hin : inner (pre ++ [e.1]) with
        | skip => exact hcs
        | touch c' =>
          simp only
          cases j with
          | zero => exact hcs
          | succ j' =>
            obtain ⟨x, hx, cs', hcs', rfl⟩ := (mem_pathsAt_succ d e.2 j' cs).1 hcs
            exact (mem_pathsAt_succ d _ j' _).2 ⟨x, insertIfMissing_mem _ _ c' x hx, cs', hcs', rfl⟩
        | recurse =>
          simp only
          exact ih (pre ++ [e.1]) e.2 bp (hz.sub e he) (ha.sub _ (mem_present.1 hbp).1) j cs hcs

end
end Ft
