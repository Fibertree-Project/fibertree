/-
  C16: the interpreter of a loop nest emits a nest that is well-nested for every key of every level.
-/
import FtProofs.Lemmas.TraceEmit
namespace Ft.C16

/-- the types `intersect_n` / `project_n` differ from `iter` and the three populate types -/
theorem label_ne_own (n : Nat) (s : String) (hs : s = "intersect_" ∨ s = "project_") :
    label n s ≠ "iter" ∧ label n s ≠ "populate_1" ∧ label n s ≠ "populate_read_0" ∧
      label n s ≠ "populate_write_0" := by
  -- as lists of characters, `intersect_…` and `project_…` differ from each of the four names within the
  -- first two characters
  have key : ∀ t : String, label n s = t → s.toList ++ (toString n).toList = t.toList :=
    fun t h => by rw [← h, label, String.toList_append]
  rcases hs with rfl | rfl
  · exact ⟨fun h => by simpa using key _ h, fun h => by simpa using key _ h,
      fun h => by simpa using key _ h, fun h => by simpa using key _ h⟩
  · exact ⟨fun h => by simpa using key _ h, fun h => by simpa using key _ h,
      fun h => by simpa using key _ h, fun h => by simpa using key _ h⟩

theorem label_intersect_project (n m : Nat) : label n "intersect_" ≠ label m "project_" := by
  unfold label
  intro h
  have := congrArg String.toList h
  simp at this

theorem popCfgOf_ok (tr : Key → Bool) (lv : Level) : PopTypesOK (popCfgOf tr lv) := by
  constructor <;> simp [popCfgOf]

def srcPlain (rank : String) (l0 : Nat) : SrcKind → List Key
  | .and _ _ => [(rank, label l0 "intersect_"), (rank, label (l0 + 1) "intersect_")]
  | .lf _ _ => [(rank, label l0 "intersect_"), (rank, label (l0 + 1) "intersect_")]
  | .orAnd _ _ => [(rank, label l0 "intersect_"), (rank, label (l0 + 1) "intersect_"),
                   (rank, label (l0 + 4) "intersect_"), (rank, label (l0 + 5) "intersect_")]
  | _ => []

def srcSaved (l0 : Nat) : SrcKind → List Key
  | .proj _ sr _ _ _ own => [(sr, label (if own then 0 else l0) "project_")]
  | _ => []

/-- the rank names a level writes traces under: its own and, for a projection, the source rank -/
def levelNames (lv : Level) : List String :=
  lv.rank :: (match lv.src with | .proj _ sr _ _ _ _ => [sr] | _ => [])

theorem srcSteps_src (tr : Key → Bool) (dflt : Int) (rank : String) (l0 : Nat) (env : Env) (u : Nat → Option Nat)
    (src : SrcKind) :
    SrcSteps (srcPlain rank l0 src) (srcSaved l0 src) (srcSteps tr dflt rank l0 env u src) := by
  -- the yielded pairs are relabelled with operand numbers and the calls are kept: that only a call is
  -- mapped to a call is what `map_emit` asks (the case split on the step in its argument)
  cases src with
  | fiber x =>
    intro i hi
    obtain ⟨e, _, h⟩ := List.mem_map.1 hi
    cases h
  | and x y => exact (andSteps_src _ _ _ _ _ _ _ _ _).map_emit (fun s i e => by cases s <;> cases e <;> rfl)
  | lf x y => exact (lfSteps_src _ _ _ _ _ _ _ _ _).map_emit (fun s i e => by cases s <;> cases e <;> rfl)
  | dense x n => exact .nil
  | proj x sr off lo hi own => exact (projSteps_src _ _ _ _ _ _ _ _).map_emit (fun s i e => by cases s <;> cases e <;> rfl)
  | orAnd x y =>
    -- the inner `&` is asked for its first element, then feeds the outer one
    have hin := (andSteps_src rank (label (l0 + 4) "intersect_") (label (l0 + 5) "intersect_")
        (tr (rank, label (l0 + 4) "intersect_")) (tr (rank, label (l0 + 5) "intersect_"))
        (viewIdx dflt (u x) (opAt env x)) (viewIdx dflt (u y) (opAt env y))
        (viewAny dflt (u x) (opAt env x)) (viewAny dflt (u y) (opAt env y))).mono
      (Q := srcPlain rank l0 (.orAnd x y)) (by intro k hk; simp [srcPlain] at hk ⊢; rcases hk with rfl | rfl <;> simp)
    have hp := pullStep_mem (andSteps rank (label (l0 + 4) "intersect_") (label (l0 + 5) "intersect_")
        (tr (rank, label (l0 + 4) "intersect_")) (tr (rank, label (l0 + 5) "intersect_"))
        (viewIdx dflt (u x) (opAt env x)) (viewIdx dflt (u y) (opAt env y))
        (viewAny dflt (u x) (opAt env x)) (viewAny dflt (u y) (opAt env y)))
    exact ((SrcSteps.emits (fun j hj => hin j (hp.1 j hj))).append
      (andStream_src rank _ _ _ _ (srcPlain rank l0 (.orAnd x y)) (by simp [srcPlain]) (by simp [srcPlain])
        0 0 _ _ _ (fun j hj => hin j (hp.2 _ hj)))).map_emit
      (fun s i e => by cases s <;> cases e <;> rfl)

theorem popSource_src (tr : Key → Bool) (dflt : Int) (lv : Level) (env : Env) :
    SrcSteps (srcPlain lv.rank 2 lv.src) (srcSaved 2 lv.src) (popSource tr dflt lv env) := by
  have h := srcSteps_src tr dflt lv.rank 2 env (aget lv.uOps) lv.src
  unfold popSource
  split
  · intro i hi
    exact h i (List.mem_filter.1 hi).1
  · exact h

theorem srcKeys_ty (rank : String) (l0 : Nat) (src : SrcKind) :
    ∀ k ∈ srcPlain rank l0 src ++ srcSaved l0 src, k.2 ≠ "iter" ∧ k.2 ≠ "populate_1" ∧
      k.2 ≠ "populate_read_0" ∧ k.2 ≠ "populate_write_0" := by
  intro k hk
  cases src with
  | fiber x | dense x n => simp [srcPlain, srcSaved] at hk
  | and x y | lf x y =>
    simp [srcPlain, srcSaved] at hk
    rcases hk with rfl | rfl <;> exact label_ne_own _ _ (Or.inl rfl)
  | proj x sr off lo hi own =>
    simp [srcPlain, srcSaved] at hk
    subst hk; exact label_ne_own _ _ (Or.inr rfl)
  | orAnd x y =>
    simp [srcPlain, srcSaved] at hk
    rcases hk with rfl | rfl | rfl | rfl <;> exact label_ne_own _ _ (Or.inl rfl)

theorem srcKeys_disj (rank : String) (l0 : Nat) (src : SrcKind) :
    ∀ k ∈ srcSaved l0 src, k ∉ srcPlain rank l0 src := by
  intro k hk
  cases src <;> simp [srcPlain, srcSaved] at hk ⊢

theorem srcKeys_names (lv : Level) (l0 : Nat) :
    ∀ k ∈ srcPlain lv.rank l0 lv.src ++ srcSaved l0 lv.src, k.1 ∈ levelNames lv := by
  intro k hk
  unfold levelNames
  -- the intersections write under the level's own rank, a projection under its source rank
  cases hsrc : lv.src with
  | fiber x | dense x n => rw [hsrc] at hk; simp [srcPlain, srcSaved] at hk
  | and x y | lf x y =>
    rw [hsrc] at hk; simp [srcPlain, srcSaved] at hk ⊢
    rcases hk with rfl | rfl <;> simp
  | proj x sr off lo hi own =>
    rw [hsrc] at hk; simp [srcPlain, srcSaved] at hk ⊢
    subst hk; simp
  | orAnd x y =>
    rw [hsrc] at hk; simp [srcPlain, srcSaved] at hk ⊢
    rcases hk with rfl | rfl | rfl | rfl <;> simp

section
variable {σ : Type}

/-- what the nest theorems need of the items of one `for` of level `lv`, whatever the loop body does -/
structure LevelOK (lv : Level) (body : Env → AnyTree × σ) (items : List (Item σ)) : Prop where
  /-- the loop body runs at most once per value of the level's counter -/
  sep : sepB true items = true
  /-- every loop body is a run of `body` -/
  bodies : ∀ x ∈ subsOf items, ∃ env', x = (body env').2
  /-- every key used carries one of the level's rank names -/
  names : ∀ it ∈ items, ∀ k, itemKey it = some k → k.1 ∈ levelNames lv
  /-- the level's own stamps of every key are in order -/
  sorted : ∀ k, LevelSorted k items

theorem rank_mem_levelNames (lv : Level) : lv.rank ∈ levelNames lv := List.mem_cons_self ..

/-- from the shape of the items: the iterators' own items are no loop bodies and use the level's names -/
theorem LevelOK.of_rounds {lv : Level} {body : Env → AnyTree × σ} {E : Item σ → Prop} {items : List (Item σ)}
    (hr : Rounds lv.rank (fun x => ∃ env', x = (body env').2) E items) (hE : ∀ it, E it → isSub it = false)
    (hEk : ∀ it, E it → ∀ k, itemKey it = some k → k.1 ∈ levelNames lv) (hs : ∀ k, LevelSorted k items) :
    LevelOK lv body items :=
  ⟨hr.sep hE, hr.subs hE, hr.keys (rank_mem_levelNames lv) hEk, hs⟩

/-- a source's keys carry one of the level's names -/
theorem srcLift_names (lv : Level) (l0 : Nat) (it : Item σ)
    (he : SrcLift (srcPlain lv.rank l0 lv.src) (srcSaved l0 lv.src) it) (k : Key) (hkey : itemKey it = some k) :
    k.1 ∈ levelNames lv :=
  srcKeys_names lv l0 k
    ((he.key hkey).elim (fun h => List.mem_append.2 (Or.inl h.2)) (fun h => List.mem_append.2 (Or.inr h.1)))

/-- a dense walk (`iterRangeShape` / `iterRangeShapeRef`) whose body function `bd` runs `body` -/
theorem denseLevel_ok (lv : Level) (body : Env → AnyTree × σ) (ref : Bool) (dfl : AnyTree) (f : Fib Int AnyTree)
    (bd : AnyTree → Int → AnyTree → AnyTree × σ) (hbd : ∀ s c p, ∃ env', (bd s c p).2 = (body env').2)
    (n : Nat) (s : AnyTree) (c : Nat) : LevelOK lv body (denseItems lv.rank ref dfl f bd s c n).2 := by
  have hE : ∀ (it : Item σ), (∃ c' pos, it = .use lv.rank "" c' pos) →
      isSub it = false ∧ ∀ k, itemKey it = some k → k.1 ∈ levelNames lv := by
    rintro _ ⟨_, _, rfl⟩
    exact ⟨rfl, fun k hk => by cases hk; exact rank_mem_levelNames lv⟩
  exact .of_rounds (denseItems_rounds _ _ _ _ _ hbd _ _ _) (fun it h => (hE it h).1) (fun it h => (hE it h).2)
    (denseItems_sorted _ _ _ _ _ _ _ _)

/-- `z << src` consumed by the loop, from any state `pst` of the populate; `mk`, `rm`, `emptyP` are the
    populate's element constructor, removal test and emptiness test, `bd` its body function, which runs `body` -/
theorem popLevel_ok (tr : Key → Bool) (dflt : Int) (lv : Level) (env : Env) (body : Env → AnyTree × σ)
    (mk : AnyTree) (rm : Bool → AnyTree → Bool) (emptyP : AnyTree → Bool)
    (bd : Int → AnyTree → List (Nat × AnyTree) → AnyTree × σ) (hbd : ∀ c cur bp, ∃ env', (bd c cur bp).2 = (body env').2)
    (pst : PopSt AnyTree) :
    LevelOK lv body (popItems (popCfgOf tr lv) mk rm emptyP bd pst (popSource tr dflt lv env)).2 := by
  have hsrc := popSource_src tr dflt lv env
  have hty := srcKeys_ty lv.rank 2 lv.src
  have hown := rank_mem_levelNames lv
  refine .of_rounds (popItems_rounds (popCfgOf tr lv) mk rm emptyP bd _ _ hbd _ pst hsrc)
    (fun it he => he.elim (·.1) (·.isSub))
    (fun it he k hkey => ?_) (fun k => ?_)
  · rcases he with he | he
    · -- the populate's own keys are under the level's rank
      rcases he.2.2 k hkey with (h | h) | ⟨_, h⟩ <;> exact h ▸ hown
    · exact srcLift_names lv 2 it he k hkey
  · apply popItems_sorted _ _ _ _ _ (popCfgOf_ok tr lv) _ _ (fun k hk => (hty k hk).1)
      (srcKeys_disj lv.rank 2 lv.src) ?_ _ _ hsrc
    -- the source's types are none of the populate's
    intro k hk
    obtain ⟨_, h2, h3, h4⟩ := hty k hk
    exact ⟨fun e => h2 (congrArg Prod.snd e), fun e => h3 (congrArg Prod.snd e), fun e => h4 (congrArg Prod.snd e)⟩

theorem levelItems_ok (tr : Key → Bool) (dflt : Int) (lv : Level) (env : Env) (body : Env → AnyTree × σ) :
    LevelOK lv body (levelItems tr dflt lv env body).2 := by
  unfold levelItems
  split
  · exact popLevel_ok tr dflt lv env body _ _ _ _ (fun _ _ _ => ⟨_, rfl⟩) _
  · split
    · -- a concrete fiber: `iterRange`, or for a rank of format "U" the dense walk
      split
      · exact .of_rounds (iterItems_rounds _ _ _ (fun _ _ _ => ⟨_, rfl⟩) _ _ _) (fun _ h => h.elim)
          (fun _ h => h.elim) (iterItems_sorted _ _ _ _ _ _)
      · exact denseLevel_ok lv body _ _ _ _ (fun _ _ _ => ⟨_, rfl⟩) _ _ _
    · exact denseLevel_ok lv body _ _ _ _ (fun _ _ _ => ⟨_, rfl⟩) _ _ _
    · -- a lazy source
      have hsrc := srcSteps_src tr dflt lv.rank 0 env (aget lv.uOps) lv.src
      have hty := srcKeys_ty lv.rank 0 lv.src
      exact .of_rounds (lazyItems_rounds _ _ _ _ (fun _ _ _ => ⟨_, rfl⟩) _ _ _ hsrc) (fun _ h => h.isSub)
        (srcLift_names lv 0)
        (fun k => lazyItems_sorted _ _ _ _ (fun k hk => (hty k hk).1) (srcKeys_disj lv.rank 0 lv.src) _ _ _ hsrc k)

end

/-- a key whose rank name no level writes under is not used anywhere in the nest -/
theorem interp_noKey (tr : Key → Bool) (dflt : Int) (k : Key) :
    ∀ (D : Nat) (levels : List Level) (env : Env),
      (∀ lv ∈ levels, k.1 ∉ levelNames lv) → noKey k D (interp tr dflt D levels env).2 = true
  | 0, _, _, _ => rfl
  | _ + 1, [], _, _ => rfl
  | D + 1, lv :: rest, env, h => by
    have ok := levelItems_ok tr dflt lv env (interp tr dflt D rest)
    simp only [interp, noKey, Bool.and_eq_true, List.isEmpty_iff, List.all_eq_true]
    constructor
    · apply levelStamps_nokey
      intro it hi hkey
      exact h lv (by simp) (ok.names it hi k hkey)
    · intro x hx
      obtain ⟨env', e⟩ := ok.bodies x hx
      rw [e]
      exact interp_noKey tr dflt k D rest env' (fun lv' hl => h lv' (by simp [hl]))

/-- The nest the interpreter emits is well-nested for a key `k` of level `i` (`wn k strict i n`): in the
    `i` enclosing loops the body runs at most once per counter value and `k` is not used; at level `i`
    the stamps of `k` are in order (strictly for `iter`); below it `k` is not used. -/
theorem interp_wn (tr : Key → Bool) (dflt : Int) (k : Key) :
    ∀ (levels : List Level) (i : Nat) (lv : Level) (env : Env),
      levels[i]? = some lv → k.1 ∈ levelNames lv →
      (∀ (j : Nat) (lv' : Level), levels[j]? = some lv' → j ≠ i → k.1 ∉ levelNames lv') →
      wn k (k.2 == "iter") i levels.length (interp tr dflt levels.length levels env).2 = true
  | [], i, lv, env, hi, _, _ => by simp at hi
  | lv0 :: rest, 0, lv, env, hi, hk, hd => by
    simp only [List.getElem?_cons_zero, Option.some.injEq] at hi
    subst hi
    have ok := levelItems_ok tr dflt lv0 env (interp tr dflt rest.length rest)
    simp only [List.length_cons, interp, wn, Bool.and_eq_true, List.all_eq_true]
    refine ⟨ok.sorted k, ?_⟩
    intro x hx
    obtain ⟨env', e⟩ := ok.bodies x hx
    rw [e]
    apply interp_noKey
    intro lv' hl
    obtain ⟨j, hj⟩ := List.mem_iff_getElem?.1 hl
    exact hd (j + 1) lv' (by simpa using hj) (by omega)
  | lv0 :: rest, i + 1, lv, env, hi, hk, hd => by
    have ok := levelItems_ok tr dflt lv0 env (interp tr dflt rest.length rest)
    simp only [List.length_cons, interp, wn, Bool.and_eq_true, List.isEmpty_iff, List.all_eq_true]
    refine ⟨⟨ok.sep, ?_⟩, ?_⟩
    · apply levelStamps_nokey
      intro it hit hkey
      exact hd 0 lv0 (by simp) (by omega) (ok.names it hit k hkey)
    · intro x hx
      obtain ⟨env', e⟩ := ok.bodies x hx
      rw [e]
      exact interp_wn tr dflt k rest i lv env' (by simpa using hi) hk
        (fun j lv' hj hne => hd (j + 1) lv' (by simpa using hj) (by omega))

end Ft.C16
