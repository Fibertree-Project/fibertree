/-
  Helper lemmas for C13 (conversions): enumerate-and-keep lists, `_makeFiber`,
  shapes, the lock-step union of `uncompress`, dictionaries, `fromRandom`.
-/
import FtProofs.Lemmas.EqLemmas
import FtModel.Convert
set_option linter.unusedSectionVars false
namespace Ft

section Items
variable {α π : Type}

/-- `[(c, t) for c, x in enumerate(l, k) if g x = some t]` — the shape of both loops of
    `_makeFiber` -/
def items (g : α → Option π) (k : Nat) (l : List α) : List (Nat × π) :=
  (enumFrom k l).filterMap (fun e => (g e.2).map (fun t => (e.1, t)))

@[simp] theorem items_nil (g : α → Option π) (k : Nat) : items g k [] = [] := rfl

theorem items_cons (g : α → Option π) (k : Nat) (x : α) (xs : List α) :
    items g k (x :: xs) =
      match g x with
      | some t => (k, t) :: items g (k + 1) xs
      | none => items g (k + 1) xs := by
  unfold items
  simp only [enumFrom, List.filterMap_cons]
  cases g x <;> rfl

theorem items_key_ge (g : α → Option π) (l : List α) : ∀ (k : Nat), ∀ e ∈ items g k l, k ≤ e.1 := by
  induction l with
  | nil => intro k e he; cases he
  | cons x xs ih =>
    intro k e he
    rw [items_cons] at he
    cases hg : g x with
    | none =>
      rw [hg] at he
      exact Nat.le_of_succ_le (ih (k + 1) e he)
    | some t =>
      rw [hg] at he
      rcases List.mem_cons.1 he with rfl | he
      · exact Nat.le_refl _
      · exact Nat.le_of_succ_le (ih (k + 1) e he)

theorem items_sorted (g : α → Option π) (l : List α) : ∀ (k : Nat), Sorted (items g k l) := by
  induction l with
  | nil => intro k; exact sorted_nil
  | cons x xs ih =>
    intro k
    rw [items_cons]
    cases hg : g x with
    | none => exact ih (k + 1)
    | some t =>
      refine sorted_cons.2 ⟨?_, ih (k + 1)⟩
      intro e he
      exact items_key_ge g xs (k + 1) e he

theorem items_mem (g : α → Option π) (l : List α) :
    ∀ (k : Nat), ∀ e ∈ items g k l, ∃ x ∈ l, g x = some e.2 := by
  induction l with
  | nil => intro k e he; cases he
  | cons x xs ih =>
    intro k e he
    rw [items_cons] at he
    cases hg : g x with
    | none =>
      rw [hg] at he
      obtain ⟨y, hy, h⟩ := ih (k + 1) e he
      exact ⟨y, List.mem_cons_of_mem _ hy, h⟩
    | some t =>
      rw [hg] at he
      rcases List.mem_cons.1 he with rfl | he
      · exact ⟨x, List.mem_cons_self .., hg⟩
      · obtain ⟨y, hy, h⟩ := ih (k + 1) e he
        exact ⟨y, List.mem_cons_of_mem _ hy, h⟩

theorem items_eq_nil_iff (g : α → Option π) (l : List α) :
    ∀ (k : Nat), items g k l = [] ↔ ∀ x ∈ l, g x = none := by
  induction l with
  | nil => intro k; simp
  | cons x xs ih =>
    intro k
    rw [items_cons]
    cases hg : g x with
    | none => simp [ih (k + 1), hg]
    | some t => simp [hg]

theorem items_flatMap {γ : Type} (g : α → Option π) (h : Nat × π → List γ) (h' : Nat × α → List γ)
    (hsome : ∀ c x t, g x = some t → h' (c, x) = h (c, t))
    (hnone : ∀ c x, g x = none → h' (c, x) = []) (l : List α) :
    ∀ (k : Nat), (items g k l).flatMap h = (enumFrom k l).flatMap h' := by
  induction l with
  | nil => intro k; rfl
  | cons x xs ih =>
    intro k
    rw [items_cons]
    simp only [enumFrom, List.flatMap_cons]
    cases hg : g x with
    | none => simp only [hnone k x hg, List.nil_append]; exact ih (k + 1)
    | some t => simp only [List.flatMap_cons, hsome k x t hg, ih (k + 1)]

end Items

section Make
variable {ν : Type} [DecidableEq ν]

def leafKeep (dflt : ν) (v : ν) : Option ν := if v = dflt then none else some v

theorem leafKeep_eq_none {dflt v : ν} : leafKeep dflt v = none ↔ v = dflt := by
  unfold leafKeep; by_cases h : v = dflt <;> simp [h]

theorem leafKeep_eq_some {dflt v w : ν} : leafKeep dflt v = some w ↔ v ≠ dflt ∧ v = w := by
  unfold leafKeep; by_cases h : v = dflt <;> simp [h]

/-- what `_makeFiber` keeps of one child of a nest: a non-default entry at the leaf level, the
    fiber built from a sub-list (unless that is `None`) above it.  Every fact about
    `_makeFiber` below is a fact about `keep` at all depths, with a trivial leaf case. -/
def keep (dflt : ν) : (d : Nat) → Nest ν d → Option (Tree Nat ν d)
  | 0,     v => (leafKeep dflt (show ν from v) : Option ν)
  | d + 1, l => makeFiber dflt d l

theorem leaf_filter_eq_items (dflt : ν) (l : List ν) : ∀ (k : Nat),
    (enumFrom k l).filter (fun e => !decide (e.2 = dflt)) = items (leafKeep dflt) k l := by
  induction l with
  | nil => intro k; rfl
  | cons x xs ih =>
    intro k
    rw [items_cons]
    simp only [enumFrom, List.filter_cons, leafKeep]
    by_cases h : x = dflt
    · simp [h, ih (k + 1)]
    · simp [h, ih (k + 1)]

/-- both loops of `_makeFiber` are an enumerate-and-keep; `None` stands for an empty result -/
theorem makeFiber_eq (dflt : ν) : ∀ (d : Nat) (l : Nest ν (d + 1)),
    makeFiber dflt d l =
      if (items (keep dflt d) 0 l).isEmpty then none else some (items (keep dflt d) 0 l) := by
  intro d l
  cases d with
  | zero =>
    simp only [makeFiber]
    rw [leaf_filter_eq_items dflt l 0]
    rfl
  | succ d =>
    simp only [makeFiber]
    cases l with
    | nil => rfl
    | cons x xs => rfl

theorem nestContent_succ (dflt : ν) (d : Nat) (l : Nest ν (d + 1)) :
    nestContent dflt (d + 1) l =
      (enumFrom 0 l).flatMap (fun e => (nestContent dflt d e.2).map (fun pv => (e.1 :: pv.1, pv.2))) := rfl

theorem makeFiber_some {dflt : ν} {d : Nat} {l : Nest ν (d + 1)} {t : Tree Nat ν (d + 1)}
    (h : makeFiber dflt d l = some t) :
    t = items (keep dflt d) 0 l ∧ items (keep dflt d) 0 l ≠ [] := by
  rw [makeFiber_eq] at h
  cases hi : items (keep dflt d) 0 l with
  | nil => rw [hi] at h; simp at h
  | cons e r =>
    rw [hi] at h
    simp only [List.isEmpty_cons, Bool.false_eq_true, if_false] at h
    exact ⟨(Option.some.inj h).symm, by simp⟩

theorem makeFiber_eq_none (dflt : ν) (d : Nat) (l : Nest ν (d + 1)) :
    makeFiber dflt d l = none ↔ items (keep dflt d) 0 l = [] := by
  rw [makeFiber_eq]
  cases items (keep dflt d) 0 l with
  | nil => exact ⟨fun _ => rfl, fun _ => rfl⟩
  | cons e r => exact ⟨fun h => by simp at h, fun h => by cases h⟩

/-- the list of stored elements of `fromUncompressed`: the empty root of an all-default nest is
    the empty enumerate-and-keep list -/
theorem fromUncompressed_eq_items (dflt : ν) (d : Nat) (l : Nest ν (d + 1)) :
    fromUncompressed dflt d l = items (keep dflt d) 0 l := by
  unfold fromUncompressed
  cases h : makeFiber dflt d l with
  | none => exact ((makeFiber_eq_none dflt d l).1 h).symm
  | some t => exact (makeFiber_some h).1

/-- the content of a kept child is the child's; a dropped child has none -/
def ContentKept (dflt : ν) (d : Nat) (x : Nest ν d) : Prop :=
  (∀ t, keep dflt d x = some t → content dflt d t = nestContent dflt d x) ∧
  (keep dflt d x = none → nestContent dflt d x = [])

theorem content_items_keep (dflt : ν) (d : Nat) (l : Nest ν (d + 1)) (ih : ∀ x, ContentKept dflt d x) :
    content dflt (d + 1) (show Tree Nat ν (d + 1) from items (keep dflt d) 0 l) =
      nestContent dflt (d + 1) l := by
  rw [nestContent_succ, content_succ]
  apply items_flatMap
  · intro c x t hx
    simp only [(ih x).1 t hx, pre]
  · intro c x hx
    simp only [(ih x).2 hx, List.map_nil]

theorem contentKept (dflt : ν) : ∀ (d : Nat) (x : Nest ν d), ContentKept dflt d x := by
  intro d
  induction d with
  | zero =>
    intro x
    have key : ∀ v : ν, ContentKept dflt 0 v := by
      intro v
      constructor
      · intro t h
        obtain ⟨hne, rfl⟩ := leafKeep_eq_some.1 h
        rfl
      · intro h
        simp [nestContent, leafKeep_eq_none.1 h]
    exact key x
  | succ d ih =>
    intro l
    constructor
    · intro t h
      obtain ⟨rfl, _⟩ := makeFiber_some h
      exact content_items_keep dflt d l ih
    · intro h
      rw [← content_items_keep dflt d l ih, (makeFiber_eq_none dflt d l).1 h]
      rfl

theorem isEmpty_succ {κ : Type} (dflt : ν) (d : Nat) (f : Tree κ ν (d + 1)) :
    isEmpty dflt (d + 1) f = List.all f (fun e => isEmpty dflt d e.2) := rfl

theorem noEmptyB_succ {κ : Type} (dflt : ν) (d : Nat) (f : Tree κ ν (d + 1)) :
    noEmptyB dflt (d + 1) f = List.all f (fun e => !isEmpty dflt d e.2 && noEmptyB dflt d e.2) := rfl

theorem chainLeaf_zero {κ : Type} (owned : Bool) (dflt : ν) (f : Tree κ ν 1) :
    chainLeaf owned dflt 0 f = some dflt := rfl

theorem chainLeaf_succ_cons {κ : Type} (owned : Bool) (dflt : ν) (d : Nat) (e : κ × Tree κ ν (d + 1))
    (r : List (κ × Tree κ ν (d + 1))) :
    chainLeaf owned dflt (d + 1) (show Tree κ ν (d + 2) from e :: r) = chainLeaf owned dflt d e.2 := rfl

theorem chainLeaf_succ_nil {κ : Type} (owned : Bool) (dflt : ν) (d : Nat) :
    chainLeaf owned dflt (d + 1) (show Tree κ ν (d + 2) from ([] : List (κ × Tree κ ν (d + 1)))) = some dflt := by
  cases owned <;> rfl

theorem WF_succ {κ : Type} [LT κ] (d : Nat) (f : Tree κ ν (d + 1)) :
    WF (d + 1) f ↔ (Sorted (show List (κ × Tree κ ν d) from f) ∧ ∀ e ∈ (show List (κ × Tree κ ν d) from f), WF d e.2) :=
  WF_succ_iff

/-- a fiber as the list of its elements (identity) -/
abbrev asList {κ : Type} {d : Nat} (t : Tree κ ν (d + 1)) : List (κ × Tree κ ν d) := t

/-- a nest as the list of its children (identity) -/
abbrev asNestList {d : Nat} (l : Nest ν (d + 1)) : List (Nest ν d) := l

/-- no empty element anywhere, not empty itself, sorted at every level -/
def KeptOk (dflt : ν) (d : Nat) (t : Tree Nat ν d) : Prop :=
  noEmptyB dflt d t = true ∧ isEmpty dflt d t = false ∧ WF d t

/-- an enumerate-and-keep list of good children is canonical (it may be empty) -/
theorem items_keep_canonical (dflt : ν) (d : Nat) (l : Nest ν (d + 1))
    (ih : ∀ x t, keep dflt d x = some t → KeptOk dflt d t) :
    noEmptyB dflt (d + 1) (show Tree Nat ν (d + 1) from items (keep dflt d) 0 l) = true ∧
    WF (d + 1) (show Tree Nat ν (d + 1) from items (keep dflt d) 0 l) := by
  have hmem : ∀ e ∈ items (keep dflt d) 0 l, KeptOk dflt d e.2 := by
    intro e he
    obtain ⟨x, _, hx⟩ := items_mem _ _ _ e he
    exact ih x e.2 hx
  refine ⟨List.all_eq_true.2 fun e he => ?_, items_sorted _ _ _, fun e he => (hmem e he).2.2⟩
  rw [(hmem e he).1, (hmem e he).2.1]
  rfl

theorem keep_good (dflt : ν) : ∀ (d : Nat) (x : Nest ν d) (t : Tree Nat ν d),
    keep dflt d x = some t → KeptOk dflt d t := by
  intro d
  induction d with
  | zero =>
    intro x t h
    have key : ∀ v w : ν, keep dflt 0 v = some w → KeptOk dflt 0 (show Tree Nat ν 0 from w) := by
      intro v w hw
      obtain ⟨hne, rfl⟩ := leafKeep_eq_some.1 hw
      exact ⟨rfl, decide_eq_false hne, trivial⟩
    exact key x t h
  | succ d ih =>
    intro l t h
    obtain ⟨rfl, hne⟩ := makeFiber_some h
    obtain ⟨h1, h2⟩ := items_keep_canonical dflt d l ih
    obtain ⟨e, he⟩ := List.exists_mem_of_ne_nil _ hne
    obtain ⟨x, _, hx⟩ := items_mem _ _ _ e he
    refine ⟨h1, List.all_eq_false.2 ⟨e, he, ?_⟩, h2⟩
    rw [(ih x e.2 hx).2.1]
    exact Bool.false_ne_true

/-- the leaf default `_fillempty` finds by walking down the first payloads of a tree built
    from a nest is the default (free and tensor-owned fibers alike), whether or not the tree is
    the empty root -/
theorem chainLeaf_items (owned : Bool) (dflt : ν) : ∀ (d : Nat) (l : Nest ν (d + 1)),
    chainLeaf owned dflt d (show Tree Nat ν (d + 1) from items (keep dflt d) 0 l) = some dflt := by
  intro d
  induction d with
  | zero => intro _; rfl
  | succ d ih =>
    intro l
    cases hh : items (keep dflt (d + 1)) 0 l with
    | nil => exact chainLeaf_succ_nil owned dflt d
    | cons e r =>
      obtain ⟨x, _, hx⟩ := items_mem _ _ _ e (hh ▸ List.mem_cons_self ..)
      show chainLeaf owned dflt d e.2 = some dflt
      rw [(makeFiber_some hx).1]
      exact ih x

theorem allDefault_succ (dflt : ν) (d : Nat) (l : Nest ν (d + 1)) :
    allDefault dflt (d + 1) l = List.all l (allDefault dflt d) := rfl

theorem keep_eq_none_iff (dflt : ν) : ∀ (d : Nat) (x : Nest ν d),
    keep dflt d x = none ↔ allDefault dflt d x = true := by
  intro d
  induction d with
  | zero =>
    intro x
    have key : ∀ v : ν, keep dflt 0 v = none ↔ allDefault dflt 0 v = true :=
      fun v => leafKeep_eq_none.trans decide_eq_true_iff.symm
    exact key x
  | succ d ih =>
    intro l
    show makeFiber dflt d l = none ↔ List.all (asNestList l) (allDefault dflt d) = true
    refine (makeFiber_eq_none dflt d l).trans ((items_eq_nil_iff (keep dflt d) l 0).trans ?_)
    rw [List.all_eq_true]
    exact ⟨fun h x hx => (ih x).1 (h x hx), fun h x hx => (ih x).2 (h x hx)⟩

theorem makeFiber_eq_none_iff (dflt : ν) (d : Nat) (l : Nest ν (d + 1)) :
    makeFiber dflt d l = none ↔ allDefault dflt (d + 1) l = true :=
  keep_eq_none_iff dflt (d + 1) l

theorem rectB_succ (d : Nat) (n : Nat) (ns : List Nat) (l : Nest ν (d + 1)) :
    rectB (d + 1) (n :: ns) l = (decide (List.length l = n) && List.all l (rectB d ns)) := rfl

theorem rectB_succ_nil (d : Nat) (l : Nest ν (d + 1)) : rectB (d + 1) [] l = false := rfl

theorem rectB_zero_cons (n : Nat) (ns : List Nat) (v : Nest ν 0) : rectB 0 (n :: ns) v = false := rfl

theorem rect_parts {d : Nat} {dims : List Nat} {l : Nest ν (d + 1)} (h : rectB (d + 1) dims l = true) :
    ∃ n ns, dims = n :: ns ∧ List.length l = n ∧ ∀ x ∈ asNestList l, rectB d ns x = true := by
  cases dims with
  | nil => rw [rectB_succ_nil] at h; cases h
  | cons n ns =>
    rw [rectB_succ, Bool.and_eq_true] at h
    exact ⟨n, ns, rfl, of_decide_eq_true h.1, List.all_eq_true.1 h.2⟩

theorem maxMerge_self (l : List Nat) : maxMerge l l = l := by
  induction l with
  | nil => rfl
  | cons x xs ih => simp [maxMerge, ih]

theorem maxMerge_nil_left (l : List Nat) : maxMerge [] l = l := by
  cases l <;> rfl

theorem calcShapeRest_const {d : Nat} {cs : Nest ν d → List Nat} {ns : List Nat} :
    ∀ (l : List (Nest ν d)), l ≠ [] → (∀ x ∈ l, cs x = ns) → calcShapeRest cs l = ns := by
  intro l
  induction l with
  | nil => intro h; exact absurd rfl h
  | cons x xs ih =>
    intro _ hall
    cases xs with
    | nil => exact hall x (List.mem_cons_self ..)
    | cons y ys =>
      have h1 := hall x (List.mem_cons_self ..)
      have h2 := ih (by simp) (fun z hz => hall z (List.mem_cons_of_mem _ hz))
      show List.zipWith max (cs x) (calcShapeRest cs (y :: ys)) = ns
      rw [h1, h2, zipWith_max_self]

theorem foldl_maxMerge_const {α : Type} {sh : α → List Nat} {ns : List Nat} :
    ∀ (l : List α), (∀ c ∈ l, sh c = ns) → l.foldl (fun rest c => maxMerge rest (sh c)) ns = ns := by
  intro l
  induction l with
  | nil => intro _; rfl
  | cons c cs ih =>
    intro h
    rw [List.foldl_cons, h c (List.mem_cons_self ..), maxMerge_self]
    exact ih (fun z hz => h z (List.mem_cons_of_mem _ hz))

theorem foldl_maxMerge_const_nil {α : Type} {sh : α → List Nat} {ns : List Nat} (l : List α) (hl : l ≠ [])
    (h : ∀ c ∈ l, sh c = ns) : l.foldl (fun rest c => maxMerge rest (sh c)) [] = ns := by
  cases l with
  | nil => exact absurd rfl hl
  | cons c cs =>
    rw [List.foldl_cons, h c (List.mem_cons_self ..), maxMerge_nil_left]
    exact foldl_maxMerge_const cs (fun z hz => h z (List.mem_cons_of_mem _ hz))

theorem rect_zero_dims {ns : List Nat} {v : Nest ν 0} (h : rectB 0 ns v = true) : ns = [] := by
  cases ns with
  | nil => rfl
  | cons n r => rw [rectB_zero_cons] at h; cases h

theorem fiberShapeSome_eq_dims (dflt : ν) : ∀ (d : Nat) (dims : List Nat) (l : Nest ν (d + 1)),
    rectB (d + 1) dims l = true → (makeFiber dflt d l).isSome = true → fiberShapeSome dflt d l = dims := by
  intro d
  induction d with
  | zero =>
    intro dims l hr hs
    obtain ⟨n, ns, rfl, hlen, hall⟩ := rect_parts hr
    obtain ⟨t, ht⟩ := Option.isSome_iff_exists.1 hs
    obtain ⟨_, hne⟩ := makeFiber_some ht
    obtain ⟨e, he⟩ := List.exists_mem_of_ne_nil _ hne
    obtain ⟨x, hx, _⟩ := items_mem _ _ _ e he
    have hns := rect_zero_dims (hall x hx)
    subst hns
    show [List.length (asNestList l)] = [n]
    rw [hlen]
  | succ d ih =>
    intro dims l hr hs
    obtain ⟨n, ns, rfl, hlen, hall⟩ := rect_parts hr
    obtain ⟨t, ht⟩ := Option.isSome_iff_exists.1 hs
    obtain ⟨_, hne⟩ := makeFiber_some ht
    obtain ⟨e, he⟩ := List.exists_mem_of_ne_nil _ hne
    obtain ⟨x, hx, hxs⟩ := items_mem _ _ _ e he
    show List.length (asNestList l) ::
      ((asNestList l).filter (fun c => (makeFiber dflt d c).isSome)).foldl
        (fun rest c => maxMerge rest (fiberShapeSome dflt d c)) [] = n :: ns
    rw [hlen]
    congr 1
    apply foldl_maxMerge_const_nil
    · intro hnil
      have : x ∈ (asNestList l).filter (fun c => (makeFiber dflt d c).isSome) := by
        apply List.mem_filter.2
        have hxs' : makeFiber dflt d x = some e.2 := hxs
        exact ⟨hx, by rw [hxs']; rfl⟩
      rw [hnil] at this; cases this
    · intro c hc
      obtain ⟨hc1, hc2⟩ := List.mem_filter.1 hc
      exact ih ns c (hall c hc1) hc2

end Make

section Lockstep
variable {α π β : Type}

/-- `Fiber(coords=range(k, k+m), initial=1)` -/
def rangeFibFrom (k m : Nat) : Fib Nat Unit := (List.range' k m).map (fun c => (c, ()))

theorem rangeFib_eq (n : Nat) : rangeFib n = rangeFibFrom 0 n := by
  simp [rangeFib, rangeFibFrom, List.range_eq_range']

theorem rangeFibFrom_zero (k : Nat) : rangeFibFrom k 0 = [] := rfl

theorem rangeFibFrom_succ (k m : Nat) : rangeFibFrom k (m + 1) = (k, ()) :: rangeFibFrom (k + 1) m := by
  simp [rangeFibFrom, List.range'_succ]

theorem orMerge_gt_head {a : Fib Nat π} {k : Nat} {u : β} {rb : Fib Nat β} (h : ∀ e ∈ a, k < e.1) :
    orMerge a ((k, u) :: rb) = (k, (Mask.B, none, some u)) :: orMerge a rb := by
  cases a with
  | nil => simp [orMerge]
  | cons e ra =>
    obtain ⟨ca, pa⟩ := e
    have hk : k < ca := h (ca, pa) (List.mem_cons_self ..)
    have h1 : ¬ ca = k := by omega
    have h2 : ¬ ca < k := by omega
    rw [orMerge]
    simp [h1, h2]

theorem orMerge_same_head {ra : Fib Nat π} {k : Nat} {t : π} {u : β} {rb : Fib Nat β} :
    orMerge ((k, t) :: ra) ((k, u) :: rb) = (k, (Mask.AB, some t, some u)) :: orMerge ra rb := by
  rw [orMerge]; simp

theorem mapMOpt_eq_some_self {g : α → Option α} : ∀ (l : List α), (∀ x ∈ l, g x = some x) → mapMOpt g l = some l := by
  intro l
  induction l with
  | nil => intro _; rfl
  | cons x xs ih =>
    intro h
    simp only [mapMOpt, h x (List.mem_cons_self ..), ih (fun z hz => h z (List.mem_cons_of_mem _ hz))]

theorem mapMOpt_none_of_mem {g : α → Option β} : ∀ (l : List α), (∃ x ∈ l, g x = none) → mapMOpt g l = none := by
  intro l
  induction l with
  | nil => rintro ⟨x, hx, _⟩; cases hx
  | cons x xs ih =>
    rintro ⟨y, hy, hg⟩
    rcases List.mem_cons.1 hy with rfl | hy
    · simp only [mapMOpt, hg]
    · have := ih ⟨y, hy, hg⟩
      simp only [mapMOpt, this]
      cases g x <;> rfl

/-- `uncompress`'s loop over `self | shape_fiber` when `self` is an enumerate-and-keep
    list over exactly the shape's coordinates: one output per input position -/
theorem uncRows_lockstep (g : α → Option π) (onAB : π → Option β) (onB : Option β) :
    ∀ (l : List α) (k : Nat),
      uncRows onAB onB (orMerge (items g k l) (rangeFibFrom k l.length)) =
        mapMOpt (fun x => (g x).elim onB onAB) l := by
  intro l
  induction l with
  | nil =>
    intro k
    simp [items_nil, rangeFibFrom_zero, orMerge, uncRows, mapMOpt]
  | cons x xs ih =>
    intro k
    rw [List.length_cons, rangeFibFrom_succ]
    cases hg : g x with
    | some t =>
      rw [items_cons, hg, orMerge_same_head]
      simp only [uncRows, mapMOpt, hg, ih (k + 1), Option.elim_some]
    | none =>
      rw [items_cons, hg, orMerge_gt_head (fun e he => items_key_ge g xs (k + 1) e he)]
      simp only [uncRows, mapMOpt, hg, ih (k + 1), Option.elim_none]

end Lockstep

section Unc
variable {ν : Type} [DecidableEq ν]

theorem present_of_noEmpty {κ : Type} (dflt : ν) (d : Nat) (f : Tree κ ν (d + 1))
    (h : noEmptyB dflt (d + 1) f = true) : present dflt d f = f := by
  have h' := List.all_eq_true.1 h
  apply List.filter_eq_self.2
  intro e he
  have := h' e he
  rw [Bool.and_eq_true] at this
  exact this.1

/-- what `uncompress` does with a presented payload: a leaf is itself, a sub-fiber is
    uncompressed to the rest of the shape -/
def uncAt (owned : Bool) (dflt : ν) : (d : Nat) → List Nat → Tree Nat ν d → Option (Nest ν d)
  | 0,     _,  v => some (show ν from v)
  | d + 1, ns, t => uncompress owned dflt d ns t

theorem uncompress_cons (owned : Bool) (dflt : ν) (d n : Nat) (ns : List Nat) (f : Tree Nat ν (d + 1)) :
    uncompress owned dflt d (n :: ns) f =
      uncRows (uncAt owned dflt d ns) (fillEmpty (chainLeaf owned dflt d f) d ns)
        (orMerge (present dflt d f) (rangeFib n)) := by
  cases d <;> rfl

theorem fillEmpty_zero (leaf : Option ν) (ns : List Nat) : fillEmpty leaf 0 ns = leaf := rfl

theorem fillEmpty_succ_cons (leaf : Option ν) (d n : Nat) (ns : List Nat) :
    fillEmpty leaf (d + 1) (n :: ns) =
      if n = 0 then some ([] : List (Nest ν d))
      else (fillEmpty leaf d ns).map (fun x => (List.replicate n x : List (Nest ν d))) := rfl

theorem fillEmpty_none_of_pos : ∀ (d : Nat) (ns : List Nat), (∀ n ∈ ns, 0 < n) →
    fillEmpty (none : Option ν) d ns = none := by
  intro d
  induction d with
  | zero => intro ns _; rfl
  | succ d ih =>
    intro ns hpos
    cases ns with
    | nil => rfl
    | cons n ns =>
      have hn : n ≠ 0 := Nat.pos_iff_ne_zero.1 (hpos n (List.mem_cons_self ..))
      rw [fillEmpty_succ_cons, if_neg hn, ih ns (fun m hm => hpos m (List.mem_cons_of_mem _ hm))]
      rfl

theorem fillEmpty_of_rect (dflt : ν) : ∀ (d : Nat) (ns : List Nat) (x : Nest ν d),
    rectB d ns x = true → (∀ n ∈ ns, 0 < n) → allDefault dflt d x = true →
    fillEmpty (some dflt) d ns = some x := by
  intro d
  induction d with
  | zero =>
    intro ns x _ _ hd
    exact congrArg some (of_decide_eq_true hd : (show ν from x) = dflt).symm
  | succ d ih =>
    intro ns x hr hpos hd
    obtain ⟨n, ns, rfl, hlen, hall⟩ := rect_parts hr
    have hd' := List.all_eq_true.1 hd
    have hn : 0 < n := hpos n (List.mem_cons_self ..)
    have hne : asNestList x ≠ [] := List.ne_nil_of_length_pos (by rw [hlen]; exact hn)
    obtain ⟨c0, hc0⟩ := List.exists_mem_of_ne_nil _ hne
    have hpos' : ∀ m ∈ ns, 0 < m := fun m hm => hpos m (List.mem_cons_of_mem _ hm)
    have hfill : ∀ c ∈ asNestList x, fillEmpty (some dflt) d ns = some c :=
      fun c hc => ih ns c (hall c hc) hpos' (hd' c hc)
    rw [fillEmpty_succ_cons, if_neg (Nat.pos_iff_ne_zero.1 hn), hfill c0 hc0]
    show some (List.replicate n c0) = some (asNestList x)
    congr 1
    symm
    apply List.eq_replicate_iff.2
    refine ⟨hlen, ?_⟩
    intro b hb
    have := (hfill b hb).symm.trans (hfill c0 hc0)
    exact Option.some.inj this

/-- one level of the round trip: if every child comes back (a kept one through `uncompress`,
    a dropped one through `_fillempty`), so does the list -/
theorem uncompress_items (owned : Bool) (dflt : ν) (d : Nat) (dims : List Nat) (n : Nest ν (d + 1))
    (hr : rectB (d + 1) dims n = true) (hpos : ∀ k ∈ dims, 0 < k)
    (ih : ∀ ns x, rectB d ns x = true → (∀ k ∈ ns, 0 < k) →
      (keep dflt d x).elim (fillEmpty (some dflt) d ns) (uncAt owned dflt d ns) = some x) :
    uncompress owned dflt d dims (show Tree Nat ν (d + 1) from items (keep dflt d) 0 n) = some n := by
  obtain ⟨m, ns, rfl, hlen, hall⟩ := rect_parts hr
  rw [uncompress_cons,
    present_of_noEmpty dflt d _ (items_keep_canonical dflt d n (keep_good dflt d)).1,
    chainLeaf_items owned dflt d n, rangeFib_eq, ← hlen]
  exact (uncRows_lockstep (keep dflt d) (uncAt owned dflt d ns) (fillEmpty (some dflt) d ns)
    (asNestList n) 0).trans (mapMOpt_eq_some_self _ fun x hx =>
      ih ns x (hall x hx) fun k hk => hpos k (List.mem_cons_of_mem _ hk))

/-- a kept child is uncompressed to the child it was built from; a dropped (all-default) child
    is what `_fillempty` produces -/
theorem uncAt_keep (owned : Bool) (dflt : ν) : ∀ (d : Nat) (ns : List Nat) (x : Nest ν d),
    rectB d ns x = true → (∀ k ∈ ns, 0 < k) →
    (keep dflt d x).elim (fillEmpty (some dflt) d ns) (uncAt owned dflt d ns) = some x := by
  intro d
  induction d with
  | zero =>
    intro ns x _ _
    have key : ∀ v : ν, (keep dflt 0 v).elim (some dflt) (fun w => some w) = some v := by
      intro v
      cases hk : keep dflt 0 v with
      | none => exact congrArg some (leafKeep_eq_none.1 hk).symm
      | some w => exact congrArg some (leafKeep_eq_some.1 hk).2.symm
    exact key x
  | succ d ih =>
    intro dims n hr hpos
    cases hk : keep dflt (d + 1) n with
    | none => exact fillEmpty_of_rect dflt (d + 1) dims n hr hpos ((keep_eq_none_iff dflt (d + 1) n).1 hk)
    | some t =>
      obtain ⟨rfl, _⟩ := makeFiber_some hk
      exact uncompress_items owned dflt d dims n hr hpos ih

end Unc

section Dict
variable {κ ν : Type}

theorem mapMOpt_map_some {α β γ : Type} (g : β → Option γ) (h : α → β) (k : α → γ) :
    ∀ (l : List α), (∀ x ∈ l, g (h x) = some (k x)) → mapMOpt g (l.map h) = some (l.map k) := by
  intro l
  induction l with
  | nil => intro _; rfl
  | cons x xs ih =>
    intro hx
    simp only [List.map_cons, mapMOpt, hx x (List.mem_cons_self ..),
      ih (fun z hz => hx z (List.mem_cons_of_mem _ hz))]

theorem fiber2dict_succ (d : Nat) (f : Tree κ ν (d + 1)) :
    fiber2dict (d + 1) f =
      (((asList f).map (·.1), (asList f).map (fun e => fiber2dict d e.2)) : List κ × List (YDict κ ν d)) := rfl

theorem dict2fiber_succ (d : Nat) (cs : List κ) (ps : List (YDict κ ν d)) :
    dict2fiber (d + 1) ((cs, ps) : List κ × List (YDict κ ν d)) =
      match mapMOpt (dict2fiber d) ps with
      | some ps' => if cs.length = ps'.length then some (cs.zip ps' : List (κ × Tree κ ν d)) else none
      | none => none := rfl

section Eq
variable [LT κ] [DecidableRel (α := κ) (· < ·)] [DecidableEq κ] [DecidableEq ν]

theorem eqB_succ (da db : ν) (d : Nat) (a b : Tree κ ν (d + 1)) :
    eqB da db (d + 1) a b =
      (orMerge (present da d a) (present db d b)).all (fun row =>
        match row.2 with
        | (Mask.AB, some pa, some pb) => eqB da db d pa pb
        | _ => false) := rfl

/-- `t == t` for every tree (no order assumption is needed: the union of a list with
    itself only ever takes the "equal coordinates" branch) -/
theorem eqB_refl (dflt : ν) : ∀ (d : Nat) (t : Tree κ ν d), eqB dflt dflt d t t = true := by
  intro d
  induction d with
  | zero => intro t; exact decide_eq_true rfl
  | succ d ih =>
    intro t
    rw [eqB_succ, orMerge_self, List.all_map, List.all_eq_true]
    intro e _
    exact ih e.2

end Eq
end Dict

section Rand
variable {π : Type}

theorem randLoop_nil (body : Draws → Option (Option π × Draws)) (s : Draws) :
    randLoop body [] s = some ([], s) := rfl

theorem randLoop_cons_some {body : Draws → Option (Option π × Draws)} {c : Nat} {cs : List Nat} {s s' : Draws}
    {r : Fib Nat π} (h : randLoop body (c :: cs) s = some (r, s')) :
    ∃ p s1 r1, body s = some (p, s1) ∧ randLoop body cs s1 = some (r1, s') ∧
      r = (match p with
           | some v => (c, v) :: r1
           | none => r1) := by
  unfold randLoop at h
  split at h
  · cases h
  · next p s1 hb =>
    split at h
    · cases h
    · next r1 s2 hr =>
      refine ⟨p, s1, r1, hb, ?_⟩
      cases p <;> cases h <;> exact ⟨hr, rfl⟩

theorem randLoop_mem {body : Draws → Option (Option π × Draws)} :
    ∀ (cs : List Nat) (s s' : Draws) (r : Fib Nat π), randLoop body cs s = some (r, s') →
      ∀ e ∈ r, e.1 ∈ cs ∧ ∃ s1 s2, body s1 = some (some e.2, s2) := by
  intro cs
  induction cs with
  | nil =>
    intro s s' r h e he
    rw [randLoop_nil] at h
    cases h; cases he
  | cons c cs ih =>
    intro s s' r h e he
    obtain ⟨p, s1, r1, hb, hr, rfl⟩ := randLoop_cons_some h
    cases p with
    | none =>
      obtain ⟨h1, h2⟩ := ih s1 s' r1 hr e he
      exact ⟨List.mem_cons_of_mem _ h1, h2⟩
    | some v =>
      rcases List.mem_cons.1 he with rfl | he
      · exact ⟨List.mem_cons_self .., s, s1, hb⟩
      · obtain ⟨h1, h2⟩ := ih s1 s' r1 hr e he
        exact ⟨List.mem_cons_of_mem _ h1, h2⟩

theorem randLoop_sublist {body : Draws → Option (Option π × Draws)} :
    ∀ (cs : List Nat) (s s' : Draws) (r : Fib Nat π), randLoop body cs s = some (r, s') →
      (r.map (·.1)).Sublist cs := by
  intro cs
  induction cs with
  | nil => intro s s' r h; rw [randLoop_nil] at h; cases h; exact List.Sublist.refl _
  | cons c cs ih =>
    intro s s' r h
    obtain ⟨p, s1, r1, hb, hr, rfl⟩ := randLoop_cons_some h
    cases p with
    | none => exact (ih s1 s' r1 hr).cons c
    | some v => exact (ih s1 s' r1 hr).cons_cons c

theorem sorted_of_randLoop {body : Draws → Option (Option π × Draws)} {n : Nat} {s s' : Draws}
    {r : Fib Nat π} (h : randLoop body (List.range n) s = some (r, s')) : Sorted r :=
  List.pairwise_map.1 (List.Pairwise.sublist (randLoop_sublist _ _ _ _ h) List.pairwise_lt_range)

/-- loop invariant for "fills the shape": if every iteration preserves `I` and yields
    either a payload whose points are `P` or nothing when `P` is empty, the result's
    points are `P` under every coordinate of the range -/
theorem randLoop_full {body : Draws → Option (Option π × Draws)} (I : Draws → Prop)
    (pts : π → List (List Nat)) (P : List (List Nat))
    (hbody : ∀ s p s1, I s → body s = some (p, s1) →
      I s1 ∧ (match p with
              | some t => pts t = P
              | none => P = [])) :
    ∀ (cs : List Nat) (s s' : Draws) (r : Fib Nat π), I s → randLoop body cs s = some (r, s') →
      I s' ∧ r.flatMap (fun e => (pts e.2).map (fun p => e.1 :: p)) =
             cs.flatMap (fun c => P.map (fun p => c :: p)) := by
  intro cs
  induction cs with
  | nil =>
    intro s s' r hI h
    rw [randLoop_nil] at h
    cases h
    exact ⟨hI, rfl⟩
  | cons c cs ih =>
    intro s s' r hI h
    obtain ⟨p, s1, r1, hb, hr, rfl⟩ := randLoop_cons_some h
    obtain ⟨hI1, hp⟩ := hbody s p s1 hI hb
    obtain ⟨hI', hr1⟩ := ih s1 s' r1 hI1 hr
    refine ⟨hI', ?_⟩
    cases p with
    | none =>
      simp only at hp
      simp only [List.flatMap_cons, hr1, hp, List.map_nil, List.nil_append]
    | some v =>
      simp only at hp
      simp only [List.flatMap_cons, hr1, hp]

/-- appending unused draws to the stream -/
def Draws.extend (s : Draws) (eu : List Nat) (ei : List Int) : Draws :=
  { us := s.us ++ eu, is := s.is ++ ei }

theorem randLoop_extend {body : Draws → Option (Option π × Draws)} (eu : List Nat) (ei : List Int)
    (hbody : ∀ s p s1, body s = some (p, s1) → body (s.extend eu ei) = some (p, s1.extend eu ei)) :
    ∀ (cs : List Nat) (s s' : Draws) (r : Fib Nat π), randLoop body cs s = some (r, s') →
      randLoop body cs (s.extend eu ei) = some (r, s'.extend eu ei) := by
  intro cs
  induction cs with
  | nil => intro s s' r h; rw [randLoop_nil] at h; cases h; rfl
  | cons c cs ih =>
    intro s s' r h
    obtain ⟨p, s1, r1, hb, hr, rfl⟩ := randLoop_cons_some h
    unfold randLoop
    rw [hbody s p s1 hb]
    simp only [ih s1 s' r1 hr]
    cases p <;> rfl

end Rand

section RandLeaf

theorem randLeafBody_extend (dflt : Int) (q : Nat) (eu : List Nat) (ei : List Int) (s : Draws) (p : Option Int)
    (s1 : Draws) (h : randLeafBody dflt q s = some (p, s1)) :
    randLeafBody dflt q (s.extend eu ei) = some (p, s1.extend eu ei) := by
  obtain ⟨us, is⟩ := s
  unfold randLeafBody at h ⊢
  cases us with
  | nil => cases h
  | cons u us' =>
    simp only [Draws.extend, List.cons_append] at h ⊢
    by_cases hu : u < q
    · simp only [hu, if_true] at h ⊢
      cases is with
      | nil => cases h
      | cons v is' =>
        simp only [List.cons_append, Option.some.injEq, Prod.mk.injEq] at h ⊢
        obtain ⟨h1, h2⟩ := h
        subst h1; subst h2
        exact ⟨rfl, rfl⟩
    · simp only [hu, if_false] at h ⊢
      by_cases hd : dflt = 0
      · simp only [hd, if_true, Option.some.injEq, Prod.mk.injEq] at h ⊢
        obtain ⟨h1, h2⟩ := h
        subst h1; subst h2
        exact ⟨rfl, rfl⟩
      · simp only [hd, if_false, Option.some.injEq, Prod.mk.injEq] at h ⊢
        obtain ⟨h1, h2⟩ := h
        subst h1; subst h2
        exact ⟨rfl, rfl⟩

/-- the draws are "good": every uniform draw is below `m`, no integer draw is the default -/
def GoodDraws (m : Nat) (dflt : Int) (s : Draws) : Prop :=
  (∀ u ∈ s.us, u < m) ∧ (∀ v ∈ s.is, v ≠ dflt)

theorem randLeafBody_good {m : Nat} {dflt : Int} {q : Nat} (hq : m ≤ q) (s : Draws) (p : Option Int) (s1 : Draws)
    (hI : GoodDraws m dflt s) (h : randLeafBody dflt q s = some (p, s1)) :
    GoodDraws m dflt s1 ∧ ∃ v, p = some v ∧ v ≠ dflt := by
  obtain ⟨us, is⟩ := s
  obtain ⟨hu, hv⟩ := hI
  unfold randLeafBody at h
  cases us with
  | nil => cases h
  | cons u us' =>
    have hlt : u < q := Nat.lt_of_lt_of_le (hu u (List.mem_cons_self ..)) hq
    simp only [hlt, if_true] at h
    cases is with
    | nil => cases h
    | cons v is' =>
      have hvd : v ≠ dflt := hv v (List.mem_cons_self ..)
      simp only [hvd, if_false, Option.some.injEq, Prod.mk.injEq] at h
      obtain ⟨h1, h2⟩ := h
      subst h1; subst h2
      exact ⟨⟨fun x hx => hu x (List.mem_cons_of_mem _ hx), fun x hx => hv x (List.mem_cons_of_mem _ hx)⟩,
        v, rfl, hvd⟩

end RandLeaf

section RandUpper

/-- the loop body of `fromRandom` above the leaf level -/
def randUpperBody (dflt : Int) (d : Nat) (ns qs : List Nat) (q : Nat) (s0 : Draws) :
    Option (Option (Tree Nat Int (d + 1)) × Draws) :=
  match s0.us with
  | [] => none
  | u :: us' =>
    if u < q then
      match fromRandom dflt d ns qs { s0 with us := us' } with
      | none => none
      | some (t, s1) => some ((if isEmpty dflt (d + 1) t then none else some t), s1)
    else if dflt = 0 then some (none, { s0 with us := us' })
    else none

theorem inShapeB_succ {ν : Type} (d n : Nat) (ns : List Nat) (t : Tree Nat ν (d + 1)) :
    inShapeB (d + 1) (n :: ns) t = (asList t).all (fun e => decide (e.1 < n) && inShapeB d ns e.2) := rfl

theorem fromRandom_zero (dflt : Int) (n : Nat) (ns : List Nat) (q : Nat) (qs : List Nat) (s : Draws) :
    fromRandom dflt 0 (n :: ns) (q :: qs) s = randLoop (randLeafBody dflt q) (List.range n) s := rfl

theorem fromRandom_succ (dflt : Int) (d n : Nat) (ns : List Nat) (q : Nat) (qs : List Nat) (s : Draws) :
    fromRandom dflt (d + 1) (n :: ns) (q :: qs) s =
      randLoop (randUpperBody dflt d ns qs q) (List.range n) s := rfl

theorem fromRandom_nil_shape (dflt : Int) (d : Nat) (dens : List Nat) (s : Draws) :
    fromRandom dflt d [] dens s = none := by
  cases d <;> rfl

theorem fromRandom_nil_dens (dflt : Int) (d : Nat) (shape : List Nat) (s : Draws) :
    fromRandom dflt d shape [] s = none := by
  cases d <;> cases shape <;> rfl

theorem fromRandom_some {dflt : Int} {d : Nat} {shape dens : List Nat} {s : Draws}
    {r : Tree Nat Int (d + 1) × Draws} (h : fromRandom dflt d shape dens s = some r) :
    ∃ n ns q qs, shape = n :: ns ∧ dens = q :: qs := by
  cases shape with
  | nil => rw [fromRandom_nil_shape] at h; cases h
  | cons n ns =>
    cases dens with
    | nil => rw [fromRandom_nil_dens] at h; cases h
    | cons q qs => exact ⟨n, ns, q, qs, rfl, rfl⟩

theorem randUpperBody_some {dflt : Int} {d : Nat} {ns qs : List Nat} {q : Nat} {s0 s1 : Draws}
    {p : Option (Tree Nat Int (d + 1))} (h : randUpperBody dflt d ns qs q s0 = some (p, s1)) :
    ∃ u us', s0.us = u :: us' ∧
      ((u < q ∧ ∃ t, fromRandom dflt d ns qs { s0 with us := us' } = some (t, s1) ∧
                      p = (if isEmpty dflt (d + 1) t then none else some t)) ∨
       (¬ u < q ∧ dflt = 0 ∧ p = none ∧ s1 = { s0 with us := us' })) := by
  unfold randUpperBody at h
  cases hus : s0.us with
  | nil => rw [hus] at h; cases h
  | cons u us' =>
    rw [hus] at h
    refine ⟨u, us', rfl, ?_⟩
    by_cases hu : u < q
    · simp only [hu, if_true] at h
      cases hr : fromRandom dflt d ns qs { s0 with us := us' } with
      | none => rw [hr] at h; cases h
      | some ts =>
        obtain ⟨t, s2⟩ := ts
        rw [hr] at h
        simp only [Option.some.injEq, Prod.mk.injEq] at h
        obtain ⟨h1, h2⟩ := h
        subst h2
        exact Or.inl ⟨hu, t, rfl, h1.symm⟩
    · simp only [hu, if_false] at h
      by_cases hd : dflt = 0
      · simp only [hd, if_true, Option.some.injEq, Prod.mk.injEq] at h
        obtain ⟨h1, h2⟩ := h
        exact Or.inr ⟨hu, hd, h1.symm, h2.symm⟩
      · simp only [hd, if_false] at h
        cases h

end RandUpper

section Points
variable {κ ν : Type} [DecidableEq ν]

theorem content_zero (dflt : ν) (v : ν) :
    content (κ := κ) dflt 0 v = if v = dflt then [] else [([], v)] := rfl

theorem points_succ (dflt : ν) (d : Nat) (t : Tree κ ν (d + 1)) :
    points dflt (d + 1) t = (asList t).flatMap (fun e => (points dflt d e.2).map (fun p => e.1 :: p)) := by
  unfold points
  rw [content_succ, List.map_flatMap]
  congr 1
  funext e
  rw [pre, List.map_map, List.map_map]
  rfl

end Points

section Unique
variable {κ ν : Type} [DecidableEq ν] [DecidableEq κ] [LT κ] [DecidableRel (α := κ) (· < ·)] [StrictTotal κ]
open StrictTotal

theorem cv_wfB_iff : ∀ (d : Nat) (t : Tree κ ν d), wfB d t = true ↔ WF d t :=
  wfB_eq_true_iff

theorem canonical_unique (dflt : ν) : ∀ (d : Nat) (a b : Tree κ ν d),
    WF d a → WF d b → noEmptyB dflt d a = true → noEmptyB dflt d b = true →
    content dflt d a = content dflt d b → a = b := by
  intro d
  induction d with
  | zero =>
    intro a b _ _ _ _ h
    have key : ∀ v w : ν, content (κ := κ) dflt 0 v = content (κ := κ) dflt 0 w → v = w := by
      intro v w hvw
      rw [content_zero, content_zero] at hvw
      by_cases hv : v = dflt
      · by_cases hw : w = dflt
        · rw [hv, hw]
        · rw [if_pos hv, if_neg hw] at hvw; cases hvw
      · by_cases hw : w = dflt
        · rw [if_neg hv, if_pos hw] at hvw; cases hvw
        · rw [if_neg hv, if_neg hw] at hvw
          simp only [List.cons.injEq, Prod.mk.injEq, true_and, and_true] at hvw
          exact hvw
    exact key a b h
  | succ d ih =>
    intro a b hwa hwb hna hnb h
    -- the content is the concatenation of one non-empty group per element, in coordinate
    -- order, so equal contents have equal groups: equal coordinates and sub-tree contents
    rw [content_eq_flat_groups, content_eq_flat_groups] at h
    have hg := flat_injective _ _ (groups_sorted hwa.1) (groups_sorted hwb.1)
      groups_nonempty groups_nonempty h
    unfold groups at hg
    rw [present_of_noEmpty dflt d a hna, present_of_noEmpty dflt d b hnb] at hg
    refine map_injOn (fun x hx y hy hxy => ?_) hg
    have hnx := Bool.and_eq_true_iff.1 (List.all_eq_true.1 hna x hx)
    have hny := Bool.and_eq_true_iff.1 (List.all_eq_true.1 hnb y hy)
    exact Prod.ext (Prod.mk.inj hxy).1
      (ih x.2 y.2 (hwa.2 x hx) (hwb.2 y hy) hnx.2 hny.2 (Prod.mk.inj hxy).2)

end Unique
end Ft
