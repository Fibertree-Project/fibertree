/-
  Lemmas for C09 (rank transforms): every transform moves the content of a well-formed tree
  pointwise.  In file order: insertion sort; content, extract / rebuild (swizzle); the grouping
  loop of merges; flatten without collisions, the loop of unflatten, descent to a depth, swap;
  tuple coordinates.  The predicates that the statements of C09.lean use are defined here, each
  before its lemmas: `GuideOk`/`guideOkB`, `valsAt`, `leafPairs`, `flat2`, `flatLv`,
  `MonoLv`/`monoLvB`, `LexSplit`, `liftN`, `subsAt`, `upperArB`, `tupleComb`, `int2B`.
-/
import FtModel.Transform
import FtProofs.Lemmas.EqLemmas
import FtProofs.Lemmas.MapMOpt
set_option linter.unusedSectionVars false
namespace Ft
namespace C09
open StrictTotal

theorem mapM?_eq_some {α β : Type} (g : α → Option β) (h : α → β) :
    ∀ l : List α, (∀ a ∈ l, g a = some (h a)) → mapM? g l = some (l.map h) := by
  intro l
  induction l with
  | nil => exact fun _ => rfl
  | cons a r ih =>
    exact fun hl => mapM?_cons_eq_some (hl a (List.mem_cons_self ..))
      (ih (fun b hb => hl b (List.mem_cons_of_mem _ hb)))

theorem mapM?_map_out {α β γ : Type} (g : α → Option β) (h : β → γ) : ∀ l : List α,
    (mapM? g l).map (List.map h) = mapM? (fun a => (g a).map h) l := by
  intro l
  induction l with
  | nil => rfl
  | cons a r ih =>
    rw [mapM?_cons, mapM?_cons, ← ih]
    cases g a with
    | none => rfl
    | some b => cases mapM? g r <;> rfl

theorem mapM?_map_in {α α' β : Type} (g : α' → Option β) (k : α → α') : ∀ l : List α,
    mapM? g (l.map k) = mapM? (fun a => g (k a)) l := by
  intro l
  induction l with
  | nil => rfl
  | cons a r ih => rw [List.map_cons, mapM?_cons, mapM?_cons, ih]

theorem mapM?_congr {α β : Type} {g g' : α → Option β} : ∀ l : List α, (∀ a ∈ l, g a = g' a) →
    mapM? g l = mapM? g' l := by
  intro l
  induction l with
  | nil => exact fun _ => rfl
  | cons a r ih =>
    intro h
    rw [mapM?_cons, mapM?_cons, h a (List.mem_cons_self ..),
      ih (fun b hb => h b (List.mem_cons_of_mem _ hb))]

theorem mapM?_keyed_bind {κ α β γ : Type} (F1 : α → Option β) (F2 : β → Option γ) (F12 : α → Option γ) :
    ∀ (l : List (κ × α)) (bs : List (κ × β)),
      mapM? (fun e => (F1 e.2).map (fun t => (e.1, t))) l = some bs →
      (∀ e ∈ l, ∀ v, F1 e.2 = some v → F2 v = F12 e.2) →
      mapM? (fun e => (F2 e.2).map (fun t => (e.1, t))) bs =
        mapM? (fun e => (F12 e.2).map (fun t => (e.1, t))) l := by
  intro l
  induction l with
  | nil => intro bs h _; cases h; rfl
  | cons e r ih =>
    intro bs h hf
    rw [mapM?_cons] at h
    cases hg : F1 e.2 with
    | none => rw [hg] at h; cases h
    | some v =>
      cases hr : mapM? (fun e => (F1 e.2).map (fun t => (e.1, t))) r with
      | none => rw [hg, hr] at h; cases h
      | some bs' =>
        rw [hg, hr] at h
        cases h
        rw [mapM?_cons, mapM?_cons, hf e (List.mem_cons_self ..) v hg,
          ih bs' hr (fun e' he' => hf e' (List.mem_cons_of_mem _ he'))]

section sort
variable {κ : Type} [LT κ] [DecidableRel (α := κ) (· < ·)] [DecidableEq κ] [StrictTotal κ]
variable {π : Type}

theorem insSorted_perm (x : κ × π) (l : Fib κ π) : (insSorted x l).Perm (x :: l) := by
  induction l with
  | nil => exact List.Perm.refl _
  | cons y r ih =>
    unfold insSorted
    split
    · exact List.Perm.refl _
    · exact (ih.cons y).trans (List.Perm.swap x y r)

theorem isort_perm (l : Fib κ π) : (isort l).Perm l := by
  induction l with
  | nil => exact List.Perm.refl _
  | cons x r ih => exact (insSorted_perm x (isort r)).trans (ih.cons x)

theorem insSorted_sorted (x : κ × π) : ∀ l : Fib κ π, Sorted l → (∀ y ∈ l, y.1 ≠ x.1) →
    Sorted (insSorted x l) := by
  intro l
  induction l with
  | nil => exact fun _ _ => List.pairwise_singleton _ _
  | cons y r IH =>
    intro hs hne
    unfold insSorted
    split
    · rename_i hlt
      exact List.Pairwise.cons (hs.lt_of_lt_head hlt) hs
    · rename_i hnlt
      have hyx : y.1 < x.1 := gt_of_not_lt_ne (hne y (List.mem_cons_self ..)).symm hnlt
      have ih := IH hs.tail (fun z hz => hne z (List.mem_cons_of_mem _ hz))
      refine List.Pairwise.cons ?_ ih
      intro z hz
      rcases List.mem_cons.1 ((insSorted_perm x r).mem_iff.1 hz) with rfl | hz
      · exact hyx
      · exact hs.head_lt z hz

theorem isort_sorted : ∀ l : Fib κ π, l.Pairwise (fun a b => a.1 ≠ b.1) → Sorted (isort l) := by
  intro l
  induction l with
  | nil => exact fun _ => List.Pairwise.nil
  | cons x r ih =>
    intro h
    have h' := List.pairwise_cons.1 h
    apply insSorted_sorted x (isort r) (ih h'.2)
    intro y hy
    exact (h'.1 y ((isort_perm r).mem_iff.1 hy)).symm

theorem sorted_keys_ne {l : Fib κ π} (h : Sorted l) : l.Pairwise (fun a b => a.1 ≠ b.1) :=
  List.Pairwise.imp (fun hab => lt_ne hab) h

theorem eq_isort_of_sorted_perm {a l : Fib κ π} (ha : Sorted a) (hp : a.Perm l) : a = isort l := by
  have hne : l.Pairwise (fun a b => a.1 ≠ b.1) :=
    (List.Perm.pairwise_iff (fun h => Ne.symm h) hp).1 (sorted_keys_ne ha)
  exact ha.eq_of_perm (isort_sorted l hne) (hp.trans (isort_perm l).symm)

end sort

section content
variable {κ : Type} [LT κ] [DecidableRel (α := κ) (· < ·)] [DecidableEq κ] [StrictTotal κ]
variable {ν : Type} [DecidableEq ν]

theorem sorted_flatMap_cons {β γ : Type} {l : Fib κ β} {F : κ × β → Fib (List κ) γ} (hs : Sorted l)
    (hF : ∀ e ∈ l, Sorted (F e)) :
    Sorted (l.flatMap (fun e => (F e).map (fun q => (e.1 :: q.1, q.2)))) := by
  unfold Sorted
  rw [List.pairwise_flatMap]
  refine ⟨fun e he => ?_, List.Pairwise.imp ?_ hs⟩
  · rw [List.pairwise_map]
    exact List.Pairwise.imp (fun hab => List.cons_lt_cons_iff.2 (Or.inr ⟨rfl, hab⟩)) (hF e he)
  · intro a b hab x hx y hy
    obtain ⟨x', _, rfl⟩ := List.mem_map.1 hx
    obtain ⟨y', _, rfl⟩ := List.mem_map.1 hy
    exact List.cons_lt_cons_iff.2 (Or.inl hab)

/-- a point of a tree is a stored coordinate followed by a point of the sub-tree under it -/
theorem mem_content_succ {dflt : ν} {d : Nat} {f : Tree κ ν (d + 1)} {pv : List κ × ν}
    (h : pv ∈ content dflt (d + 1) f) :
    ∃ e ∈ (show List (κ × Tree κ ν d) from f), ∃ y ∈ content dflt d e.2, pv = (e.1 :: y.1, y.2) := by
  rw [content_succ] at h
  obtain ⟨e, he, hpe⟩ := List.mem_flatMap.1 h
  unfold pre at hpe
  obtain ⟨y, hy, rfl⟩ := List.mem_map.1 hpe
  exact ⟨e, he, y, hy, rfl⟩

theorem content_sorted (dflt : ν) : ∀ (d : Nat) (t : Tree κ ν d), WF d t →
    Sorted (κ := List κ) (content dflt d t) := by
  intro d
  induction d with
  | zero =>
    intro v _
    show Sorted (κ := List κ) (if (show ν from v) = dflt then [] else [([], (show ν from v))])
    split
    · exact List.Pairwise.nil
    · exact List.pairwise_singleton _ _
  | succ d ih =>
    intro f h
    rw [content_succ]
    exact sorted_flatMap_cons h.1 (fun e he => ih e.2 (h.2 e he))

theorem content_eq_isort_of_perm {dflt : ν} {d : Nat} {t : Tree κ ν d} (h : WF d t)
    {L : List (List κ × ν)} (hp : (content dflt d t).Perm L) :
    content dflt d t = isort (κ := List κ) L :=
  eq_isort_of_sorted_perm (content_sorted dflt d t h) hp

theorem content_point_length (dflt : ν) : ∀ (d : Nat) (t : Tree κ ν d) (pv : List κ × ν),
    pv ∈ content dflt d t → pv.1.length = d := by
  intro d
  induction d with
  | zero =>
    intro v pv h
    have h' : pv ∈ (if (show ν from v) = dflt then [] else [([], (show ν from v))]) := h
    split at h'
    · cases h'
    · rw [List.mem_singleton.1 h']; rfl
  | succ d ih =>
    intro f pv h
    obtain ⟨e, _, y, hy, rfl⟩ := mem_content_succ h
    exact congrArg (· + 1) (ih e.2 y hy)

/-- the content below a list of (coordinates, sub-tree) entries -/
def below (dflt : ν) (r : Nat) (l : List (List κ × Tree κ ν r)) : List (List κ × ν) :=
  l.flatMap (fun q => (content dflt r q.2).map (fun pv => (q.1 ++ pv.1, pv.2)))

theorem below_cons (dflt : ν) (r : Nat) (q : List κ × Tree κ ν r) (l) :
    below dflt r (q :: l) = (content dflt r q.2).map (fun pv => (q.1 ++ pv.1, pv.2)) ++ below dflt r l := by
  unfold below; rw [List.flatMap_cons]

theorem below_map_cons (dflt : ν) (r : Nat) (c : κ) (l : List (List κ × Tree κ ν r)) :
    below dflt r (l.map (fun q => (c :: q.1, q.2))) = pre c (below dflt r l) := by
  unfold below pre
  rw [List.flatMap_map, List.map_flatMap]
  simp only [List.map_map]
  rfl

theorem content_extract (dflt : ν) (r : Nat) : ∀ (k : Nat) (t : Tree κ ν (r + k)),
    content dflt (r + k) t = below dflt r (extract r k t) := by
  intro k
  induction k with
  | zero =>
    intro t
    show content dflt r t = below dflt r [([], t)]
    rw [below_cons]
    show _ = List.map _ _ ++ []
    rw [List.append_nil]
    exact (List.map_id'' (fun _ => rfl) _).symm
  | succ k IH =>
    intro f
    show content dflt (r + k + 1) f = below dflt r (extract r (k + 1) f)
    rw [content_succ]
    unfold extract below
    rw [List.flatMap_assoc]
    apply flatMap_congr_mem
    intro e _
    rw [IH e.2]
    exact (below_map_cons dflt r e.1 _).symm

theorem extract_spec (r : Nat) : ∀ (k : Nat) (t : Tree κ ν (r + k)), WF (r + k) t →
    Sorted (κ := List κ) (extract r k t) ∧ ∀ q ∈ extract r k t, q.1.length = k ∧ WF r q.2 := by
  intro k
  induction k with
  | zero =>
    exact fun t hw => ⟨List.pairwise_singleton _ _, fun q h => by
      rw [List.mem_singleton.1 h]; exact ⟨rfl, hw⟩⟩
  | succ k ih =>
    intro f hw
    unfold extract
    refine ⟨sorted_flatMap_cons hw.1 (fun e he => (ih e.2 (hw.2 e he)).1), fun q h => ?_⟩
    obtain ⟨e, he, hq⟩ := List.mem_flatMap.1 h
    obtain ⟨q', hq', rfl⟩ := List.mem_map.1 hq
    have := (ih e.2 (hw.2 e he)).2 q' hq'
    exact ⟨congrArg (· + 1) this.1, this.2⟩

section
variable {α : Type} {c c' : κ} {p : List κ} {a : α} {rest : List (List κ × α)}
  {g : List (List κ × α)} {gs : List (κ × List (List κ × α))}

theorem groupHeads_cons_nil (h : groupHeads rest = []) :
    groupHeads ((c :: p, a) :: rest) = [(c, [(p, a)])] := by
  rw [groupHeads, h]

theorem groupHeads_cons_same (h : groupHeads rest = (c, g) :: gs) :
    groupHeads ((c :: p, a) :: rest) = (c, (p, a) :: g) :: gs := by
  rw [groupHeads, h]
  exact if_pos rfl

theorem groupHeads_cons_ne (h : groupHeads rest = (c', g) :: gs) (hc : c ≠ c') :
    groupHeads ((c :: p, a) :: rest) = (c, [(p, a)]) :: (c', g) :: gs := by
  rw [groupHeads, h]
  exact if_neg hc

end

theorem groupHeads_flat {α : Type} : ∀ l : List (List κ × α), (∀ q ∈ l, q.1 ≠ []) →
    (groupHeads l).flatMap (fun g => g.2.map (fun q => (g.1 :: q.1, q.2))) = l := by
  intro l
  induction l with
  | nil => exact fun _ => rfl
  | cons q rest IH =>
    intro h
    obtain ⟨_ | ⟨c, p⟩, a⟩ := q
    · exact absurd rfl (h ([], a) (List.mem_cons_self ..))
    have ih := IH (fun q hq => h q (List.mem_cons_of_mem _ hq))
    cases hg : groupHeads rest with
    | nil =>
      rw [hg] at ih
      rw [groupHeads_cons_nil hg, ← ih]
      rfl
    | cons g gs =>
      rw [hg] at ih
      obtain ⟨c', g⟩ := g
      by_cases hc : c = c'
      · subst hc
        rw [groupHeads_cons_same hg, ← ih]
        rfl
      · rw [groupHeads_cons_ne hg hc, ← ih]
        rfl

theorem mem_groupHeads {α : Type} {l : List (List κ × α)} (h : ∀ q ∈ l, q.1 ≠ [])
    {g : κ × List (List κ × α)} (hg : g ∈ groupHeads l) {q : List κ × α} (hq : q ∈ g.2) :
    (g.1 :: q.1, q.2) ∈ l := by
  rw [← groupHeads_flat l h]
  exact List.mem_flatMap.2 ⟨g, hg, List.mem_map.2 ⟨q, hq, rfl⟩⟩

/-- groups with ascending first coordinates, each non-empty and ascending -/
def GroupsOk {α : Type} (G : List (κ × List (List κ × α))) : Prop :=
  Sorted G ∧ ∀ g ∈ G, g.2 ≠ [] ∧ Sorted (κ := List κ) g.2

/-- an entry below all members of the first group joins it -/
theorem GroupsOk.join {α : Type} {c : κ} {p : List κ} {a : α} {g : List (List κ × α)}
    {gs : List (κ × List (List κ × α))} (h : GroupsOk ((c, g) :: gs)) (hp : ∀ q ∈ g, p < q.1) :
    GroupsOk ((c, (p, a) :: g) :: gs) :=
  ⟨List.Pairwise.cons (fun z hz => h.1.head_lt z hz) h.1.tail, fun g' hg' => by
    rcases List.mem_cons.1 hg' with rfl | hg'
    · exact ⟨List.cons_ne_nil _ _, List.Pairwise.cons hp (h.2 _ (List.mem_cons_self ..)).2⟩
    · exact h.2 g' (List.mem_cons_of_mem _ hg')⟩

/-- an entry with a smaller first coordinate opens a group of its own -/
theorem GroupsOk.new {α : Type} {c : κ} {p : List κ} {a : α} {G : List (κ × List (List κ × α))}
    (h : GroupsOk G) (hc : ∀ g ∈ G, c < g.1) : GroupsOk ((c, [(p, a)]) :: G) :=
  ⟨List.Pairwise.cons hc h.1, fun g' hg' => by
    rcases List.mem_cons.1 hg' with rfl | hg'
    · exact ⟨List.cons_ne_nil _ _, List.pairwise_singleton _ _⟩
    · exact h.2 g' hg'⟩

theorem groupHeads_sorted {α : Type} : ∀ l : List (List κ × α), (∀ q ∈ l, q.1 ≠ []) →
    Sorted (κ := List κ) l → GroupsOk (groupHeads l) := by
  intro l
  induction l with
  | nil => exact fun _ _ => ⟨List.Pairwise.nil, fun _ h => by cases h⟩
  | cons q rest IH =>
    intro h hs
    obtain ⟨_ | ⟨c, p⟩, a⟩ := q
    · exact absurd rfl (h ([], a) (List.mem_cons_self ..))
    have hne := fun q hq => h q (List.mem_cons_of_mem _ hq)
    have ih := IH hne hs.tail
    have hmem := fun g hg q hq => mem_groupHeads (l := rest) hne (g := g) hg (q := q) hq
    cases hg : groupHeads rest with
    | nil =>
      rw [hg] at ih
      rw [groupHeads_cons_nil hg]
      exact ih.new (fun _ h => by cases h)
    | cons g gs =>
      rw [hg] at ih hmem
      obtain ⟨c', g⟩ := g
      -- every member of the first group lies in `rest`, hence above `(c :: p, a)`
      have hlt : ∀ q ∈ g, (c :: p) < (c' :: q.1) := fun q hq =>
        hs.head_lt (c' :: q.1, q.2) (hmem (c', g) (List.mem_cons_self ..) q hq)
      by_cases hc : c = c'
      · subst hc
        rw [groupHeads_cons_same hg]
        exact ih.join (fun q hq => ((List.cons_lt_cons_iff.1 (hlt q hq)).resolve_left (irrefl c)).2)
      · rw [groupHeads_cons_ne hg hc]
        obtain ⟨q0, hq0⟩ := List.exists_mem_of_ne_nil g (ih.2 _ (List.mem_cons_self ..)).1
        have hcc : c < c' := (List.cons_lt_cons_iff.1 (hlt q0 hq0)).resolve_right (fun h => hc h.1)
        exact ih.new (ih.1.lt_of_lt_head hcc)

theorem extract_rebuild (r : Nat) : ∀ (k : Nat) (l : List (List κ × Tree κ ν r)),
    (∀ q ∈ l, q.1.length = k + 1) → extract r (k + 1) (rebuild r k l) = l := by
  intro k
  induction k with
  | zero =>
    intro l h
    show List.flatMap (fun e : κ × Tree κ ν r => [([e.1], e.2)]) (List.filterMap _ l) = l
    induction l with
    | nil => rfl
    | cons q l ih =>
      have ih' := ih (fun q hq => h q (List.mem_cons_of_mem _ hq))
      obtain ⟨p, s⟩ := q
      match p, h _ (List.mem_cons_self ..) with
      | [c], _ =>
        simp only [List.filterMap_cons, List.flatMap_cons]
        rw [ih']
        rfl
  | succ k IH =>
    intro l h
    have hne : ∀ q ∈ l, q.1 ≠ [] := fun q hq hn => by
      have := h q hq; rw [hn] at this; cases this
    conv => rhs; rw [← groupHeads_flat l hne]
    show List.flatMap _ (List.map _ (groupHeads l)) = _
    rw [List.flatMap_map]
    apply flatMap_congr_mem
    intro g hg
    show List.map _ (extract r (k + 1) (rebuild r k g.2)) = _
    rw [IH g.2 (fun q hq => Nat.succ.inj (h _ (mem_groupHeads hne hg hq)))]

theorem content_rebuild (dflt : ν) (r k : Nat) (l : List (List κ × Tree κ ν r))
    (h : ∀ q ∈ l, q.1.length = k + 1) :
    content dflt (r + (k + 1)) (rebuild r k l) = below dflt r l := by
  rw [content_extract dflt r (k + 1), extract_rebuild r k l h]

theorem extract_one (r : Nat) (f : Tree κ ν (r + 1)) :
    extract r 1 f = (show List (κ × Tree κ ν r) from f).map (fun e => ([e.1], e.2)) :=
  List.map_eq_flatMap.symm

theorem rebuild_wf (r : Nat) : ∀ (k : Nat) (l : List (List κ × Tree κ ν r)),
    (∀ q ∈ l, q.1.length = k + 1) → Sorted (κ := List κ) l → (∀ q ∈ l, WF r q.2) →
    WF (r + (k + 1)) (rebuild r k l) := by
  intro k
  induction k with
  | zero =>
    intro l h hs hw
    rw [← extract_rebuild r 0 l h, extract_one] at hs hw
    refine ⟨?_, fun e he => hw ([e.1], e.2) (List.mem_map.2 ⟨e, he, rfl⟩)⟩
    unfold Sorted at hs ⊢
    rw [List.pairwise_map] at hs
    exact hs.imp (fun hab => (List.cons_lt_cons_iff.1 hab).resolve_right (fun h => List.not_lt_nil _ h.2))
  | succ k IH =>
    intro l h hs hw
    show WF (r + (k + 1) + 1) (rebuild r (k + 1) l)
    have hne : ∀ q ∈ l, q.1 ≠ [] := fun q hq hn => by
      have := h q hq; rw [hn] at this; cases this
    have hG := groupHeads_sorted l hne hs
    unfold rebuild
    refine ⟨?_, ?_⟩
    · show Sorted ((groupHeads l).map _)
      unfold Sorted
      rw [List.pairwise_map]
      exact hG.1
    · intro e he
      obtain ⟨g, hg, rfl⟩ := List.mem_map.1 he
      apply IH g.2
      · exact fun q hq => Nat.succ.inj (h _ (mem_groupHeads hne hg hq))
      · exact (hG.2 g hg).2
      · intro q hq
        exact hw (g.1 :: q.1, q.2) (mem_groupHeads hne hg hq)

/-- `guide` lists every rank index below `n` (a permutation of `range n`, as `swizzleRanks`
    asserts with `sorted(old_rank_ids) == sorted(rank_ids)`) -/
def GuideOk (n : Nat) (g : List Nat) : Prop :=
  g.length = n ∧ (∀ i ∈ g, i < n) ∧ (∀ i, i < n → i ∈ g)

def guideOkB (n : Nat) (g : List Nat) : Bool :=
  g.length == n && g.all (fun i => decide (i < n)) && (List.range n).all (fun i => g.contains i)

theorem guideOkB_iff (n : Nat) (g : List Nat) : guideOkB n g = true ↔ GuideOk n g := by
  -- conjunct by conjunct: `==`, `all ∘ decide` and `all ∘ contains` decide the three clauses
  simp [guideOkB, GuideOk, and_assoc]

theorem permute_length {g : List Nat} {p : List κ} (h : ∀ i ∈ g, i < p.length) :
    (permute g p).length = g.length := by
  unfold permute
  induction g with
  | nil => rfl
  | cons i g ih =>
    have hi := h i (List.mem_cons_self ..)
    have : p[i]? = some p[i] := List.getElem?_eq_getElem hi
    rw [List.filterMap_cons, this]
    simp [ih (fun j hj => h j (List.mem_cons_of_mem _ hj))]

theorem permute_append {g : List Nat} {p s : List κ} (h : ∀ i ∈ g, i < p.length) :
    permute g (p ++ s) = permute g p := by
  unfold permute
  apply filterMap_congr'
  intro i hi
  exact List.getElem?_append_left (h i hi)

theorem filterMap_getElem?_inj {g : List Nat} {p p' : List κ}
    (h : ∀ i ∈ g, i < p.length) (h' : ∀ i ∈ g, i < p'.length)
    (he : g.filterMap (fun i => p[i]?) = g.filterMap (fun i => p'[i]?)) :
    ∀ i ∈ g, p[i]? = p'[i]? := by
  induction g with
  | nil => intro i hi; cases hi
  | cons j g ih =>
    have hj := h j (List.mem_cons_self ..)
    have hj' := h' j (List.mem_cons_self ..)
    have e1 : p[j]? = some p[j] := List.getElem?_eq_getElem hj
    have e2 : p'[j]? = some p'[j] := List.getElem?_eq_getElem hj'
    rw [List.filterMap_cons, List.filterMap_cons, e1, e2] at he
    simp only [List.cons.injEq] at he
    intro i hi
    rcases List.mem_cons.1 hi with rfl | hi
    · rw [e1, e2, he.1]
    · exact ih (fun i hi => h i (List.mem_cons_of_mem _ hi)) (fun i hi => h' i (List.mem_cons_of_mem _ hi))
        he.2 i hi

theorem permute_injective {n : Nat} {g : List Nat} (hg : GuideOk n g) {p p' : List κ}
    (hp : p.length = n) (hp' : p'.length = n) (he : permute g p = permute g p') : p = p' := by
  apply List.ext_getElem?
  intro i
  by_cases hi : i < n
  · exact filterMap_getElem?_inj (fun j hj => hp ▸ hg.2.1 j hj) (fun j hj => hp' ▸ hg.2.1 j hj) he i
      (hg.2.2 i hi)
  · rw [List.getElem?_eq_none (by omega), List.getElem?_eq_none (by omega)]

theorem permPoint_append {n : Nat} {g : List Nat} (hg : GuideOk n g) {q s : List κ} (hq : q.length = n) :
    permPoint g (q ++ s) = permute g q ++ s := by
  unfold permPoint
  rw [permute_append (fun i hi => hq ▸ hg.2.1 i hi), hg.1, ← hq, List.drop_left]

theorem permPoint_permPoint {n : Nat} {g g' : List Nat} (hg : GuideOk n g) (hg' : GuideOk n g')
    (hinv : ∀ p : List κ, p.length = n → permute g' (permute g p) = p) {p : List κ} (hp : n ≤ p.length) :
    permPoint g' (permPoint g p) = p := by
  have htl : (p.take n).length = n := by rw [List.length_take]; omega
  have hpl : (permute g (p.take n)).length = n := by
    rw [permute_length (fun i hi => htl.symm ▸ hg.2.1 i hi), hg.1]
  conv => lhs; rw [← List.take_append_drop n p]
  rw [permPoint_append hg htl, permPoint_append hg' hpl, hinv _ htl, List.take_append_drop]

theorem permute_range (n : Nat) (p : List κ) (h : n ≤ p.length) : permute (List.range n) p = p.take n := by
  induction n with
  | zero => rfl
  | succ n ih =>
    have ih := ih (Nat.le_of_succ_le h)
    unfold permute at ih ⊢
    rw [List.range_succ, List.filterMap_append, ih]
    have : p[n]? = some p[n] := List.getElem?_eq_getElem h
    rw [List.take_add_one, this, List.filterMap_cons, this, List.filterMap_nil]
    rfl

theorem permPoint_range (n : Nat) (p : List κ) (h : n ≤ p.length) : permPoint (List.range n) p = p := by
  unfold permPoint
  rw [permute_range n p h, List.length_range, List.take_append_drop]

theorem below_map_permute (dflt : ν) (r : Nat) {n : Nat} {g : List Nat} (hg : GuideOk n g)
    (l : List (List κ × Tree κ ν r)) (hl : ∀ q ∈ l, q.1.length = n) :
    below dflt r (l.map (fun q => (permute g q.1, q.2))) =
      (below dflt r l).map (fun pv => (permPoint g pv.1, pv.2)) := by
  unfold below
  rw [List.flatMap_map, List.map_flatMap]
  apply flatMap_congr_mem
  intro q hq
  rw [List.map_map]
  apply List.map_congr_left
  intro pv _
  show (permute g q.1 ++ pv.1, pv.2) = (permPoint g (q.1 ++ pv.1), pv.2)
  rw [permPoint_append hg (hl q hq)]

theorem rebuild_isort_spec (dflt : ν) (r k : Nat) (L : List (List κ × Tree κ ν r))
    (hlen : ∀ q ∈ L, q.1.length = k + 1) (hw : ∀ q ∈ L, WF r q.2)
    (hne : L.Pairwise (fun a b => a.1 ≠ b.1)) :
    WF (r + (k + 1)) (rebuild r k (isort L)) ∧
      (content dflt (r + (k + 1)) (rebuild r k (isort L))).Perm (below dflt r L) := by
  have hp := isort_perm (κ := List κ) L
  have hlen' : ∀ q ∈ isort (κ := List κ) L, q.1.length = k + 1 := fun q hq => hlen q (hp.mem_iff.1 hq)
  refine ⟨rebuild_wf r k _ hlen' (isort_sorted _ hne) (fun q hq => hw q (hp.mem_iff.1 hq)), ?_⟩
  rw [content_rebuild dflt r k _ hlen']
  exact List.Perm.flatMap_right _ hp

end content

section group
variable {κ : Type} [LT κ] [DecidableRel (α := κ) (· < ·)] [DecidableEq κ] [StrictTotal κ]
variable {π : Type}

/-- the payloads that got coordinate `c`, in traversal order -/
def valsAt (pairs : Fib κ π) (c : κ) : List π := (pairs.filter (fun x => x.1 = c)).map (fun x => x.2)

theorem valsAt_snoc (a : Fib κ π) (x : κ × π) (c : κ) :
    valsAt (a ++ [x]) c = if x.1 = c then valsAt a c ++ [x.2] else valsAt a c := by
  unfold valsAt
  by_cases h : x.1 = c <;> simp [List.filter_append, h]

theorem valsAt_ne_nil_iff {pairs : Fib κ π} {c : κ} : valsAt pairs c ≠ [] ↔ HasKey pairs c := by
  unfold valsAt HasKey
  rw [Ne, List.map_eq_nil_iff, List.filter_eq_nil_iff]
  constructor
  · intro h
    apply Classical.byContradiction
    intro hn
    exact h (fun x hx hxc => hn ⟨x, hx, of_decide_eq_true hxc⟩)
  · rintro ⟨x, hx, hxc⟩ h
    exact h x hx (decide_eq_true hxc)

theorem insGroup_hasKey : ∀ (acc : Fib κ (List π)) (c : κ) (p : π) (k : κ),
    HasKey (insGroup acc c p) k ↔ k = c ∨ HasKey acc k := by
  intro acc c p k
  induction acc with
  | nil =>
    show HasKey [(c, [p])] k ↔ _
    rw [hasKey_cons, eq_comm]
  | cons e r ih =>
    unfold insGroup
    split
    · rw [hasKey_cons, hasKey_cons, ih, or_left_comm]
    · split
      · rename_i _ heq
        rw [hasKey_cons, hasKey_cons]
        exact ⟨Or.inr, fun h => h.elim (fun hk => Or.inl (heq.trans hk.symm)) id⟩
      · rw [hasKey_cons, eq_comm]

theorem insGroup_sorted : ∀ (acc : Fib κ (List π)) (c : κ) (p : π), Sorted acc → Sorted (insGroup acc c p) := by
  intro acc c p
  induction acc with
  | nil => exact fun _ => List.pairwise_singleton _ _
  | cons e r ih =>
    intro hs
    unfold insGroup
    split
    · rename_i hlt
      refine List.Pairwise.cons ?_ (ih hs.tail)
      intro x hx
      rcases (insGroup_hasKey r c p x.1).1 ⟨x, hx, rfl⟩ with h | h
      · rw [h]; exact hlt
      · exact hs.lt_of_hasKey h
    · split
      · exact List.Pairwise.cons (fun x hx => hs.head_lt x hx) hs.tail
      · rename_i hnlt hne
        have hgt : c < e.1 := gt_of_not_lt_ne hne hnlt
        exact List.Pairwise.cons (hs.lt_of_lt_head hgt) hs

theorem insGroup_lookup : ∀ (acc : Fib κ (List π)) (c : κ) (p : π) (k : κ), Sorted acc →
    lookup (insGroup acc c p) k =
      if k = c then some ((lookup acc c).getD [] ++ [p]) else lookup acc k := by
  intro acc c p k
  induction acc with
  | nil =>
    intro _
    show lookup [(c, [p])] k = _
    rw [lookup_cons_ite]
    by_cases h : k = c
    · rw [if_pos h.symm, if_pos h]; rfl
    · rw [if_neg (Ne.symm h), if_neg h]
  | cons e r ih =>
    intro hs
    unfold insGroup
    by_cases h1 : e.1 < c
    · rw [if_pos h1]
      simp only [lookup_cons_ite]
      rw [ih hs.tail, if_neg (lt_ne h1)]
      by_cases h : e.1 = k
      · rw [if_pos h, if_neg (fun hk => lt_ne h1 (h.trans hk)), if_pos h]
      · rw [if_neg h, if_neg h]
    · rw [if_neg h1]
      by_cases h2 : e.1 = c
      · rw [if_pos h2]
        simp only [lookup_cons_ite]
        rw [if_pos h2]
        by_cases h : k = c
        · rw [if_pos (h2.trans h.symm), if_pos h]; rfl
        · rw [if_neg (fun hk => h (hk.symm.trans h2)), if_neg h, if_neg (fun hk => h (hk.symm.trans h2))]
      · have hgt : c < e.1 := gt_of_not_lt_ne h2 h1
        rw [if_neg h2]
        simp only [lookup_cons_ite]
        rw [if_neg h2, lookup_eq_none_of_lt (f := r) (c := c) (fun x hx => trans hgt (hs.head_lt x hx))]
        by_cases h : k = c
        · rw [if_pos h.symm, if_pos h]; rfl
        · rw [if_neg (Ne.symm h), if_neg h]

/-- the grouping loop: the accumulator holds, per coordinate, the payloads seen so far -/
theorem foldl_insGroup_spec : ∀ (todo done : Fib κ π) (acc : Fib κ (List π)), Sorted acc →
    (∀ k, lookup acc k = if valsAt done k = [] then none else some (valsAt done k)) →
    Sorted (todo.foldl (fun acc x => insGroup acc x.1 x.2) acc) ∧
    ∀ k, lookup (todo.foldl (fun acc x => insGroup acc x.1 x.2) acc) k =
      if valsAt (done ++ todo) k = [] then none else some (valsAt (done ++ todo) k) := by
  intro todo
  induction todo with
  | nil =>
    intro done acc hs hl
    rw [List.append_nil]
    exact ⟨hs, hl⟩
  | cons x todo ih =>
    intro done acc hs hl
    have := ih (done ++ [x]) (insGroup acc x.1 x.2) (insGroup_sorted acc x.1 x.2 hs) (fun k => by
      rw [insGroup_lookup acc x.1 x.2 k hs, valsAt_snoc, hl, hl]
      by_cases h : k = x.1
      · subst h
        rw [if_pos rfl, if_pos rfl, if_neg (List.append_ne_nil_of_right_ne_nil _ (List.cons_ne_nil _ _))]
        by_cases hv : valsAt done x.1 = []
        · rw [if_pos hv, hv]; rfl
        · rw [if_neg hv]; rfl
      · rw [if_neg h, if_neg (Ne.symm h)])
    rw [List.append_assoc] at this
    exact this

/-- ascending new coordinates, each once, each with exactly the payloads that got it, in
    traversal order — for any input -/
theorem gather_spec (comb : κ → κ → κ) (rows : Fib κ (Fib κ π)) :
    Sorted (gather comb rows) ∧
    (∀ row ∈ gather comb rows, row.2 = valsAt (pairsOf comb rows) row.1 ∧ row.2 ≠ []) ∧
    (∀ c, HasKey (gather comb rows) c ↔ HasKey (pairsOf comb rows) c) := by
  unfold gather
  obtain ⟨hs, hl⟩ := foldl_insGroup_spec (pairsOf comb rows) [] [] List.Pairwise.nil (fun _ => rfl)
  rw [List.nil_append] at hl
  refine ⟨hs, fun row hrow => ?_, fun c => ?_⟩
  · have h := (hl row.1).symm.trans (lookup_of_sorted_mem hs hrow)
    by_cases hv : valsAt (pairsOf comb rows) row.1 = []
    · rw [if_pos hv] at h; cases h
    · rw [if_neg hv] at h
      exact ⟨(Option.some.inj h).symm, fun h' => hv ((Option.some.inj h).trans h')⟩
  · rw [hasKey_iff_lookup, hl c, ← valsAt_ne_nil_iff]
    by_cases hv : valsAt (pairsOf comb rows) c = []
    · rw [if_pos hv]; exact ⟨fun h => Bool.noConfusion h, fun h => absurd hv h⟩
    · rw [if_neg hv]; exact ⟨fun _ => hv, fun _ => rfl⟩

theorem valsAt_of_sorted_mem {l : Fib κ π} (hs : Sorted l) {x : κ × π} (hx : x ∈ l) :
    valsAt l x.1 = [x.2] := by
  induction l with
  | nil => cases hx
  | cons y l ih =>
    unfold valsAt at ih ⊢
    rw [List.filter_cons]
    rcases List.mem_cons.1 hx with rfl | hx
    · rw [if_pos (decide_eq_true rfl), List.map_cons, List.filter_eq_nil_iff.2
        (fun z hz h => lt_ne (hs.head_lt z hz) (of_decide_eq_true h).symm)]
      rfl
    · rw [if_neg (fun h => lt_ne (hs.head_lt x hx) (of_decide_eq_true h)), ih hs.tail hx]

/-- without collisions every pair is a group of its own -/
theorem gather_sorted (comb : κ → κ → κ) (rows : Fib κ (Fib κ π))
    (hs : Sorted (pairsOf comb rows)) :
    gather comb rows = (pairsOf comb rows).map (fun x => (x.1, [x.2])) := by
  obtain ⟨hg, hr, hk⟩ := gather_spec comb rows
  refine sorted_ext_of_fn (F := valsAt (pairsOf comb rows)) _ _ hg (sorted_map_key _ _ hs)
    (fun row h => (hr row h).1) (fun row h => ?_)
    (fun c => (hk c).trans (hasKey_map_key _ _ c).symm)
  obtain ⟨x, hx, rfl⟩ := List.mem_map.1 h
  exact (valsAt_of_sorted_mem hs hx).symm

theorem pairsOf_map {π π' : Type} (comb : κ → κ → κ) (h : π → π') (rows : Fib κ (Fib κ π)) :
    pairsOf comb (rows.map (fun e => (e.1, e.2.map (fun x => (x.1, h x.2))))) =
      (pairsOf comb rows).map (fun x => (x.1, h x.2)) := by
  unfold pairsOf
  rw [List.flatMap_map, List.map_flatMap]
  simp only [List.map_map]
  rfl

theorem insGroup_map {π' : Type} (h : π → π') : ∀ (acc : Fib κ (List π)) (c : κ) (p : π),
    insGroup (acc.map (fun g => (g.1, g.2.map h))) c (h p) =
      (insGroup acc c p).map (fun g => (g.1, g.2.map h)) := by
  intro acc c p
  induction acc with
  | nil => rfl
  | cons e r ih =>
    rw [List.map_cons]
    unfold insGroup
    by_cases h1 : e.1 < c
    · rw [if_pos h1, if_pos h1, ih]; rfl
    · rw [if_neg h1, if_neg h1]
      by_cases h2 : e.1 = c
      · rw [if_pos h2, if_pos h2, List.map_cons, List.map_append]; rfl
      · rw [if_neg h2, if_neg h2]; rfl

theorem foldl_insGroup_map {π' : Type} (h : π → π') : ∀ (pairs : Fib κ π) (acc : Fib κ (List π)),
    (pairs.map (fun x => (x.1, h x.2))).foldl (fun acc x => insGroup acc x.1 x.2)
        (acc.map (fun g => (g.1, g.2.map h))) =
      (pairs.foldl (fun acc x => insGroup acc x.1 x.2) acc).map (fun g => (g.1, g.2.map h)) := by
  intro pairs
  induction pairs with
  | nil => exact fun _ => rfl
  | cons x pairs ih =>
    intro acc
    rw [List.map_cons, List.foldl_cons, List.foldl_cons, insGroup_map, ih]

theorem gather_map {π' : Type} (comb : κ → κ → κ) (h : π → π') (rows : Fib κ (Fib κ π)) :
    gather comb (rows.map (fun e => (e.1, e.2.map (fun x => (x.1, h x.2))))) =
      (gather comb rows).map (fun g => (g.1, g.2.map h)) := by
  unfold gather
  rw [pairsOf_map]
  exact foldl_insGroup_map h _ []

end group

section transforms
variable {κ : Type} [LT κ] [DecidableRel (α := κ) (· < ·)] [DecidableEq κ] [StrictTotal κ]
variable {ν : Type} [DecidableEq ν]

/-- the (new coordinate, value) pairs of the presented leaves of a two-rank tree, in traversal order -/
def leafPairs (comb : κ → κ → κ) (dflt : ν) (f : Tree κ ν 2) : Fib κ ν :=
  pairsOf comb ((show List (κ × Tree κ ν 1) from f).map
    (fun e => (e.1, (show List (κ × ν) from present dflt 0 e.2))))

theorem mergeTrees_leaf (mf : List ν → Option ν) (z d : ν) : ∀ vs : List ν,
    (mergeTrees (κ := κ) mf z 0 (vs.map (fun v => ((show Tree κ ν 0 from v), d)))).map
      (fun t => (show ν from t.1)) = foldVals mf vs
  | [] => rfl
  | [v] => rfl
  | v :: w :: rest => by
    have hm : (List.map (fun x : Tree κ ν 0 × ν => x.1)
        (List.map (fun v => ((show Tree κ ν 0 from v), d)) (v :: w :: rest))) = v :: w :: rest := by
      rw [List.map_map]
      exact List.map_id'' (fun _ => rfl) _
    refine (congrArg (fun o => Option.map (fun t : Tree κ ν 0 × ν => (show ν from t.1))
      (Option.map (fun v => ((show Tree κ ν 0 from v), d)) o)) (congrArg mf hm)).trans ?_
    show _ = mf (v :: w :: rest)
    cases mf (v :: w :: rest) <;> rfl

theorem mergeTrees_singleton (mf : List ν → Option ν) (z : ν) :
    ∀ (r : Nat) (x : Tree κ ν r × ν), mergeTrees mf z r [x] = some x
  | 0, _ => rfl
  | _ + 1, _ => rfl

theorem mergeRows_sorted (comb : κ → κ → κ) (mf : List ν → Option ν) (z : ν) (r : Nat)
    (rows : Fib κ (Fib κ (Tree κ ν r × ν))) (hs : Sorted (pairsOf comb rows)) :
    mergeRows comb mf z r rows = some (pairsOf comb rows) := by
  unfold mergeRows
  rw [gather_sorted comb rows hs,
    mapM?_eq_some _ (fun row => (row.1, row.2.headD (defaultTree z r, z)))]
  · rw [List.map_map]
    exact congrArg some (List.map_id'' (fun _ => rfl) _)
  · intro row hrow
    obtain ⟨x, _, rfl⟩ := List.mem_map.1 hrow
    -- a group of one payload is returned as it is
    show (mergeTrees mf z r [x.2]).map _ = _
    rw [mergeTrees_singleton]
    rfl

theorem untag_tagWith {π : Type} (d : ν) (f : Fib κ π) : untag (tagWith d f) = f := by
  unfold untag tagWith
  rw [List.map_map]
  exact List.map_id'' (fun _ => rfl) f

/-- the ideal flattening of the top two ranks: every presented lower element under its combined
    coordinate, in traversal order -/
def flat2 (comb : κ → κ → κ) (dflt : ν) (r : Nat) (f : Tree κ ν (r + 2)) : Tree κ ν (r + 1) :=
  show List (κ × Tree κ ν r) from
    pairsOf comb ((show List (κ × Tree κ ν (r + 1)) from f).map (fun e => (e.1, present dflt r e.2)))

theorem merge2T_sorted (comb : κ → κ → κ) (mf : List ν → Option ν) (z dflt : ν) (r : Nat)
    (f : Tree κ ν (r + 2)) (hs : Sorted (show List (κ × Tree κ ν r) from flat2 comb dflt r f)) :
    merge2T comb mf z dflt r f =
      some (tagWith dflt (show List (κ × Tree κ ν r) from flat2 comb dflt r f)) := by
  have e : pairsOf comb ((show List (κ × Tree κ ν (r + 1)) from f).map
        (fun e => (e.1, tagWith dflt (present dflt r e.2)))) =
      tagWith dflt (show List (κ × Tree κ ν r) from flat2 comb dflt r f) := by
    refine Eq.trans ?_ (pairsOf_map comb (fun t : Tree κ ν r => (t, dflt)) _)
    rw [List.map_map]
    rfl
  unfold merge2T
  rw [mergeRows_sorted, e]
  rw [e]
  exact sorted_map_key _ (fun x => (x.2, dflt)) hs

theorem merge2_sorted (comb : κ → κ → κ) (mf : List ν → Option ν) (z dflt : ν) (r : Nat)
    (f : Tree κ ν (r + 2)) (hs : Sorted (show List (κ × Tree κ ν r) from flat2 comb dflt r f)) :
    merge2 comb mf z dflt r f = some (flat2 comb dflt r f) := by
  unfold merge2
  rw [merge2T_sorted comb mf z dflt r f hs]
  exact congrArg some (untag_tagWith dflt _)

theorem flat2_sub_wf (comb : κ → κ → κ) (dflt : ν) (r : Nat) (f : Tree κ ν (r + 2)) (hw : WF (r + 2) f) :
    ∀ x ∈ (show List (κ × Tree κ ν r) from flat2 comb dflt r f), WF r x.2 := by
  intro x hx
  unfold flat2 pairsOf at hx
  obtain ⟨e', he', hx'⟩ := List.mem_flatMap.1 hx
  obtain ⟨e, he, rfl⟩ := List.mem_map.1 he'
  obtain ⟨y, hy, rfl⟩ := List.mem_map.1 hx'
  exact (hw.2 e he).2 y (mem_present.1 hy).1

theorem content_flat2 (comb : κ → κ → κ) (dflt : ν) (r : Nat) (f : Tree κ ν (r + 2)) :
    content dflt (r + 1) (flat2 comb dflt r f) =
      (content dflt (r + 2) f).map (fun pv => (join2 comb pv.1, pv.2)) := by
  show (pairsOf comb ((show List (κ × Tree κ ν (r + 1)) from f).map
      (fun e => (e.1, present dflt r e.2)))).flatMap (fun e => pre e.1 (content dflt r e.2)) =
    ((show List (κ × Tree κ ν (r + 1)) from f).flatMap
      (fun e => pre e.1 (content dflt (r + 1) e.2))).map (fun pv => (join2 comb pv.1, pv.2))
  unfold pairsOf
  rw [List.flatMap_map, List.flatMap_assoc, List.map_flatMap]
  apply flatMap_congr_mem
  intro e _
  rw [content_present, List.flatMap_map]
  simp only [pre, List.map_flatMap, List.map_map]
  rfl

/-- the ideal flattening of `l+2` ranks, lowest pair first -/
def flatLv (comb : Nat → κ → κ → κ) (dflt : ν) (r : Nat) : (l : Nat) → Tree κ ν (r + 2 + l) → Tree κ ν (r + 1)
  | 0, f => flat2 (comb 0) dflt r f
  | l + 1, f => flat2 (comb (l + 1)) dflt r
      (show List (κ × Tree κ ν (r + 1)) from
        (show List (κ × Tree κ ν (r + 2 + l)) from f).map (fun e => (e.1, flatLv comb dflt r l e.2)))

/-- the new coordinates come out ascending at every level (no collision, nothing to sort) -/
def MonoLv (comb : Nat → κ → κ → κ) (dflt : ν) (r : Nat) : (l : Nat) → Tree κ ν (r + 2 + l) → Prop
  | 0, f => Sorted (show List (κ × Tree κ ν r) from flatLv comb dflt r 0 f)
  | l + 1, f => (∀ e ∈ (show List (κ × Tree κ ν (r + 2 + l)) from f), MonoLv comb dflt r l e.2) ∧
      Sorted (show List (κ × Tree κ ν r) from flatLv comb dflt r (l + 1) f)

def monoLvB (comb : Nat → κ → κ → κ) (dflt : ν) (r : Nat) : (l : Nat) → Tree κ ν (r + 2 + l) → Bool
  | 0, f => sortedB (show List (κ × Tree κ ν r) from flatLv comb dflt r 0 f)
  | l + 1, f => (show List (κ × Tree κ ν (r + 2 + l)) from f).all (fun e => monoLvB comb dflt r l e.2) &&
      sortedB (show List (κ × Tree κ ν r) from flatLv comb dflt r (l + 1) f)

theorem monoLvB_iff (comb : Nat → κ → κ → κ) (dflt : ν) (r : Nat) :
    ∀ (l : Nat) (f : Tree κ ν (r + 2 + l)), monoLvB comb dflt r l f = true ↔ MonoLv comb dflt r l f := by
  intro l
  induction l with
  | zero => exact fun f => sortedB_iff _
  | succ l ih =>
    intro f
    unfold monoLvB MonoLv
    rw [Bool.and_eq_true, List.all_eq_true, sortedB_iff]
    exact and_congr_left' (forall₂_congr (fun e _ => ih e.2))

theorem MonoLv.sorted {comb : Nat → κ → κ → κ} {dflt : ν} {r : Nat} :
    ∀ {l : Nat} {f : Tree κ ν (r + 2 + l)}, MonoLv comb dflt r l f →
      Sorted (show List (κ × Tree κ ν r) from flatLv comb dflt r l f)
  | 0, _, h => h
  | _ + 1, _, h => h.2

theorem presentT_tagWith (dflt : ν) (ok : Bool) : ∀ (r : Nat) (sub : List (κ × Tree κ ν r)),
    presentT dflt dflt ok r (tagWith dflt sub) =
      tagWith dflt (present dflt r (show Tree κ ν (r + 1) from sub))
  | 0, sub => by
    show List.filter (fun e => !isEmpty (κ := κ) (if ok then dflt else dflt) 0 e.2.1)
        (List.map (fun e => (e.1, (e.2, dflt))) sub) =
      List.map (fun e => (e.1, (e.2, dflt))) (List.filter (fun e => !isEmpty dflt 0 e.2) sub)
    rw [List.filter_map]
    congr 1
    apply List.filter_congr
    intro e _
    cases ok <;> rfl
  | r + 1, sub => by
    show List.filter (fun e => !isEmpty e.2.2 (r + 1) e.2.1)
        (List.map (fun e => (e.1, (e.2, dflt))) sub) =
      List.map (fun e => (e.1, (e.2, dflt))) (List.filter (fun e => !isEmpty dflt (r + 1) e.2) sub)
    rw [List.filter_map]
    rfl

/-- with `z = dflt` and a non-linear style (`lin = false`), `_mergeRanksHelper` computes the
    ideal flattening whenever the new coordinates come out ascending -/
theorem mergeLvT_mono (comb : Nat → κ → κ → κ) (mf : List ν → Option ν) (dflt : ν) (r : Nat) :
    ∀ (l : Nat) (f : Tree κ ν (r + 2 + l)), MonoLv comb dflt r l f →
      mergeLvT false dflt comb mf dflt r l f =
        some (tagWith dflt (show List (κ × Tree κ ν r) from flatLv comb dflt r l f)) := by
  intro l
  induction l with
  | zero => exact fun f h => merge2T_sorted (comb 0) mf dflt dflt r f h
  | succ l IH =>
    intro f h
    unfold mergeLvT
    have hsub : mapM? (fun e => (mergeLvT false dflt comb mf dflt r l e.2).bind (fun t =>
              let ok := lastOk r l e.2
              let pr := presentT dflt dflt ok r t
              if false && !ok && !pr.isEmpty then none else some (e.1, pr)))
            (show List (κ × Tree κ ν (r + 2 + l)) from f) =
        some ((show List (κ × Tree κ ν (r + 2 + l)) from f).map (fun e =>
          (e.1, tagWith dflt (present dflt r (flatLv comb dflt r l e.2))))) := by
      apply mapM?_eq_some
      intro e he
      rw [IH e.2 (h.1 e he)]
      simp only [Option.bind_some, Bool.false_and, Bool.false_eq_true, if_false]
      exact congrArg (fun x => some (e.1, x))
        (presentT_tagWith dflt (lastOk r l e.2) r (show List (κ × Tree κ ν r) from flatLv comb dflt r l e.2))
    rw [hsub]
    -- what is left is `_mergeRanksHelper(levels=1)` on the tree whose payloads are flattened already
    have h2 := merge2T_sorted (comb (l + 1)) mf dflt dflt r
      (show List (κ × Tree κ ν (r + 1)) from
        (show List (κ × Tree κ ν (r + 2 + l)) from f).map
          (fun e : κ × Tree κ ν (r + 2 + l) => (e.1, flatLv comb dflt r l e.2))) h.2
    unfold merge2T at h2
    rw [List.map_map] at h2
    exact h2

theorem mergeLv_mono (comb : Nat → κ → κ → κ) (mf : List ν → Option ν) (dflt : ν) (r l : Nat)
    (f : Tree κ ν (r + 2 + l)) (h : MonoLv comb dflt r l f) :
    mergeLv false dflt comb mf dflt r l f = some (flatLv comb dflt r l f) := by
  unfold mergeLv
  rw [mergeLvT_mono comb mf dflt r l f h]
  exact congrArg some (untag_tagWith dflt (show List (κ × Tree κ ν r) from flatLv comb dflt r l f))

theorem content_flatLv (comb : Nat → κ → κ → κ) (dflt : ν) (r : Nat) :
    ∀ (l : Nat) (f : Tree κ ν (r + 2 + l)),
      content dflt (r + 1) (flatLv comb dflt r l f) =
        (content dflt (r + 2 + l) f).map (fun pv => (joinTop comb l pv.1, pv.2)) := by
  intro l
  induction l with
  | zero => exact content_flat2 (comb 0) dflt r
  | succ l IH =>
    intro f
    refine (content_flat2 (comb (l + 1)) dflt r _).trans ?_
    show List.map _ (List.flatMap _ ((show List (κ × Tree κ ν (r + 2 + l)) from f).map _)) =
      List.map _ (List.flatMap _ (show List (κ × Tree κ ν (r + 2 + l)) from f))
    rw [List.flatMap_map, List.map_flatMap, List.map_flatMap]
    apply flatMap_congr_mem
    intro e _
    show List.map _ (pre e.1 (content dflt (r + 1) (flatLv comb dflt r l e.2))) = _
    rw [IH e.2]
    simp only [pre, List.map_map]
    rfl

theorem flatLv_wf (comb : Nat → κ → κ → κ) (dflt : ν) (r : Nat) :
    ∀ (l : Nat) (f : Tree κ ν (r + 2 + l)), WF (r + 2 + l) f → MonoLv comb dflt r l f →
      WF (r + 1) (flatLv comb dflt r l f) := by
  intro l
  induction l with
  | zero => exact fun f hw hm => ⟨hm, flat2_sub_wf (comb 0) dflt r f hw⟩
  | succ l ih =>
    intro f hw hm
    refine ⟨hm.2, ?_⟩
    apply flat2_sub_wf (comb (l + 1)) dflt r
    refine ⟨sorted_map_key _ _ hw.1, fun e he => ?_⟩
    obtain ⟨e', he', rfl⟩ := List.mem_map.1 he
    exact ih e'.2 (hw.2 e' he') (hm.1 e' he')

theorem content_append (dflt : ν) (d : Nat) (a b : List (κ × Tree κ ν d)) :
    content dflt (d + 1) (show Tree κ ν (d + 1) from a ++ b) =
      content dflt (d + 1) (show Tree κ ν (d + 1) from a) ++ content dflt (d + 1) (show Tree κ ν (d + 1) from b) := by
  show List.flatMap _ (a ++ b) = List.flatMap _ a ++ List.flatMap _ b
  rw [List.flatMap_append]

theorem pre_append (c : κ) (a b : List (List κ × ν)) : pre c (a ++ b) = pre c a ++ pre c b := by
  unfold pre; rw [List.map_append]

/-- the order of tuple coordinates is the lexicographic order of (first component, rest) -/
def LexSplit (hd tl : κ → κ) : Prop :=
  ∀ a b : κ, a < b → hd a < hd b ∨ (hd a = hd b ∧ tl a < tl b)

/-- the remaining elements come with first components that never decrease and, where these are
    equal, with ascending rests — what a sorted fiber of tuple coordinates gives (`loopOk_of_sorted`) -/
def LoopOk {π : Type} (hd tl : κ → κ) (rest : Fib κ π) : Prop :=
  rest.Pairwise (fun x y => ¬ hd y.1 < hd x.1 ∧ (hd x.1 = hd y.1 → tl x.1 < tl y.1))

theorem loopOk_of_sorted {π : Type} {hd tl : κ → κ} (hH : LexSplit hd tl) {l : Fib κ π}
    (hs : Sorted l) : LoopOk hd tl l := by
  unfold LoopOk
  refine List.Pairwise.imp ?_ hs
  intro x y hxy
  rcases hH x.1 y.1 hxy with h | ⟨h1, h2⟩
  · exact ⟨lt_asymm' h, fun e => absurd (e ▸ h) (irrefl _)⟩
  · exact ⟨fun h => absurd (h1 ▸ h) (irrefl _), fun _ => h2⟩

/-- the content of a fiber given as the plain list `cur` of its elements -/
def c1 (dflt : ν) (r : Nat) (cur : List (κ × Tree κ ν r)) : List (List κ × ν) :=
  cur.flatMap (fun e => pre e.1 (content dflt r e.2))
/-- the content of a fiber of fibers given as the plain list `G` of its groups -/
def c2 (dflt : ν) (r : Nat) (G : List (κ × List (κ × Tree κ ν r))) : List (List κ × ν) :=
  G.flatMap (fun g => pre g.1 (c1 dflt r g.2))

theorem c2_eq (dflt : ν) (r : Nat) (G : List (κ × List (κ × Tree κ ν r))) :
    content dflt (r + 2) (show Tree κ ν (r + 2) from (show List (κ × Tree κ ν (r + 1)) from G)) =
      c2 dflt r G := rfl

theorem c1_append (dflt : ν) (r : Nat) (a b : List (κ × Tree κ ν r)) :
    c1 dflt r (a ++ b) = c1 dflt r a ++ c1 dflt r b := by
  unfold c1; rw [List.flatMap_append]

theorem c1_single (dflt : ν) (r : Nat) (e : κ × Tree κ ν r) :
    c1 dflt r [e] = pre e.1 (content dflt r e.2) := by
  unfold c1; simp

theorem c2_cons (dflt : ν) (r : Nat) (g : κ × List (κ × Tree κ ν r)) (G) :
    c2 dflt r (g :: G) = pre g.1 (c1 dflt r g.2) ++ c2 dflt r G := by
  unfold c2; rw [List.flatMap_cons]

theorem unflatLoop_cons_lt {π : Type} {hd tl : κ → κ} {x : κ × π} {rest cur : Fib κ π} {cl : κ}
    (h : cl < hd x.1) :
    unflatLoop hd tl (x :: rest) cl cur = (cl, cur) :: unflatLoop hd tl rest (hd x.1) [(tl x.1, x.2)] := by
  rw [unflatLoop]
  exact if_pos h

theorem unflatLoop_cons_not_lt {π : Type} {hd tl : κ → κ} {x : κ × π} {rest cur : Fib κ π} {cl : κ}
    (h : ¬ cl < hd x.1) :
    unflatLoop hd tl (x :: rest) cl cur = unflatLoop hd tl rest cl (cur ++ [(tl x.1, x.2)]) := by
  rw [unflatLoop]
  exact if_neg h

/-- The state of the loop of `unflattenRanks`: `cur` is the ascending group being collected for
    `cl`, and what remains is ordered by (first component, rest) with nothing that belongs before it. -/
structure LoopInv (r : Nat) (hd tl : κ → κ) (rest : List (κ × Tree κ ν r)) (cl : κ)
    (cur : List (κ × Tree κ ν r)) : Prop where
  rest_ok : LoopOk hd tl rest
  not_before : ∀ x ∈ rest, ¬ hd x.1 < cl
  above_cur : ∀ x ∈ rest, hd x.1 = cl → ∀ e ∈ cur, e.1 < tl x.1
  cur_sorted : Sorted cur
  cur_wf : ∀ e ∈ cur, WF r e.2
  rest_wf : ∀ x ∈ rest, WF r x.2

/-- the first of the remaining elements opens a group of its own -/
theorem LoopInv.start {r : Nat} {hd tl : κ → κ} {x : κ × Tree κ ν r} {rest : List (κ × Tree κ ν r)}
    (hC : LoopOk hd tl (x :: rest)) (hw : ∀ y ∈ x :: rest, WF r y.2) :
    LoopInv r hd tl rest (hd x.1) [(tl x.1, x.2)] := by
  have hC' := List.pairwise_cons.1 hC
  exact ⟨hC'.2, fun y hy => (hC'.1 y hy).1,
    fun y hy he e he' => by rw [List.mem_singleton.1 he']; exact (hC'.1 y hy).2 he.symm,
    List.pairwise_singleton _ _,
    fun e he => by rw [List.mem_singleton.1 he]; exact hw x (List.mem_cons_self ..),
    fun y hy => hw y (List.mem_cons_of_mem _ hy)⟩

/-- an element with the current first component joins the current group -/
theorem LoopInv.extend {r : Nat} {hd tl : κ → κ} {x : κ × Tree κ ν r} {rest cur : List (κ × Tree κ ν r)}
    {cl : κ} (h : LoopInv r hd tl (x :: rest) cl cur) (heq : hd x.1 = cl) :
    LoopInv r hd tl rest cl (cur ++ [(tl x.1, x.2)]) := by
  have hC' := List.pairwise_cons.1 h.rest_ok
  refine ⟨hC'.2, fun y hy => h.not_before y (List.mem_cons_of_mem _ hy), ?_, ?_, ?_,
    fun y hy => h.rest_wf y (List.mem_cons_of_mem _ hy)⟩
  · intro y hy he e he'
    rcases List.mem_append.1 he' with he' | he'
    · exact h.above_cur y (List.mem_cons_of_mem _ hy) he e he'
    · rw [List.mem_singleton.1 he']
      exact (hC'.1 y hy).2 (heq.trans he.symm)
  · exact sorted_append_iff.2 ⟨h.cur_sorted, List.pairwise_singleton _ _, fun a ha b hb => by
      rw [List.mem_singleton.1 hb]
      exact h.above_cur x (List.mem_cons_self ..) heq a ha⟩
  · intro e he
    rcases List.mem_append.1 he with he | he
    · exact h.cur_wf e he
    · rw [List.mem_singleton.1 he]; exact h.rest_wf x (List.mem_cons_self ..)

/-- under the invariant the groups come out ascending, all at or above `cl`, each ascending, and
    every element sits under (first component, rest) of its coordinate -/
theorem unflatLoop_spec (dflt : ν) (r : Nat) (hd tl : κ → κ) :
    ∀ (rest : List (κ × Tree κ ν r)) (cl : κ) (cur : List (κ × Tree κ ν r)),
      LoopInv r hd tl rest cl cur →
      Sorted (unflatLoop hd tl rest cl cur) ∧
      (∀ c, c < cl → ∀ g ∈ unflatLoop hd tl rest cl cur, c < g.1) ∧
      (∀ g ∈ unflatLoop hd tl rest cl cur, Sorted g.2 ∧ ∀ e ∈ g.2, WF r e.2) ∧
      c2 dflt r (unflatLoop hd tl rest cl cur) =
        pre cl (c1 dflt r cur) ++
          rest.flatMap (fun x => pre (hd x.1) (pre (tl x.1) (content dflt r x.2))) := by
  intro rest
  induction rest with
  | nil =>
    intro cl cur h
    refine ⟨List.pairwise_singleton _ _, fun c hc g hg => ?_, fun g hg => ?_, ?_⟩
    · rw [List.mem_singleton.1 hg]; exact hc
    · rw [List.mem_singleton.1 hg]; exact ⟨h.cur_sorted, h.cur_wf⟩
    · show c2 dflt r [(cl, cur)] = _
      rw [c2_cons]; rfl
  | cons x rest IH =>
    intro cl cur h
    by_cases hlt : cl < hd x.1
    · -- `x` opens a new group; `(cl, cur)` is complete
      rw [unflatLoop_cons_lt hlt]
      obtain ⟨ihS, ihL, ihG, ihC⟩ := IH (hd x.1) [(tl x.1, x.2)] (LoopInv.start h.rest_ok h.rest_wf)
      refine ⟨List.Pairwise.cons (ihL cl hlt) ihS, fun c hc g hg => ?_, fun g hg => ?_, ?_⟩
      · rcases List.mem_cons.1 hg with rfl | hg
        · exact hc
        · exact ihL c (trans hc hlt) g hg
      · rcases List.mem_cons.1 hg with rfl | hg
        · exact ⟨h.cur_sorted, h.cur_wf⟩
        · exact ihG g hg
      · rw [c2_cons, ihC, c1_single, List.flatMap_cons]
    · -- `x` joins the current group
      rw [unflatLoop_cons_not_lt hlt]
      have heq : hd x.1 = cl :=
        (((tri cl (hd x.1)).resolve_left hlt).resolve_right (h.not_before x (List.mem_cons_self ..))).symm
      obtain ⟨ihS, ihL, ihG, ihC⟩ := IH cl (cur ++ [(tl x.1, x.2)]) (h.extend heq)
      refine ⟨ihS, ihL, ihG, ?_⟩
      rw [ihC, c1_append, pre_append, List.flatMap_cons, heq, c1_single, List.append_assoc]

/-- a point map applied below the first coordinate -/
def lift1 (φ : List κ → List κ) : List κ → List κ
  | c :: p => c :: φ p
  | [] => []

/-- a point map applied below the first `k` coordinates -/
def liftN (φ : List κ → List κ) : Nat → List κ → List κ
  | 0 => φ
  | k + 1 => lift1 (liftN φ k)

theorem liftN_id : ∀ (k : Nat) (p : List κ), liftN (fun q => q) k p = p := by
  intro k
  induction k with
  | zero => exact fun _ => rfl
  | succ k ih =>
    intro p
    cases p with
    | nil => rfl
    | cons c p => exact congrArg (c :: ·) (ih p)

theorem pre_map_lift1 (φ : List κ → List κ) (c : κ) (L : List (List κ × ν)) :
    (pre c L).map (fun pv => (lift1 φ pv.1, pv.2)) = pre c (L.map (fun pv => (φ pv.1, pv.2))) := by
  unfold pre
  rw [List.map_map, List.map_map]
  rfl

/-- If `F` succeeds on every payload with a well-formed result whose content is `R`-related to the
    `φ`-image of the payload's content, the same holds one level up (same coordinates).  `R` is
    equality for order-preserving point maps and `List.Perm` for those that reorder. -/
theorem mapM?_level {R : List (List κ × ν) → List (List κ × ν) → Prop} (hnil : R [] [])
    (happ : ∀ {a b c d}, R a b → R c d → R (a ++ c) (b ++ d))
    (hmap : ∀ {a b} (f : List κ × ν → List κ × ν), R a b → R (a.map f) (b.map f))
    (dflt dflt' : ν) (d d' : Nat) (F : Tree κ ν d → Option (Tree κ ν d')) (φ : List κ → List κ) :
    ∀ (G : List (κ × Tree κ ν d)),
      (∀ g ∈ G, ∃ t, F g.2 = some t ∧ WF d' t ∧
        R (content dflt' d' t) ((content dflt d g.2).map (fun pv => (φ pv.1, pv.2)))) →
      ∃ bs : List (κ × Tree κ ν d'),
        mapM? (fun e => (F e.2).map (fun t => (e.1, t))) G = some bs ∧
        bs.map (fun e => e.1) = G.map (fun e => e.1) ∧ (∀ b ∈ bs, WF d' b.2) ∧
        R (c1 dflt' d' bs) ((c1 dflt d G).map (fun pv => (lift1 φ pv.1, pv.2))) := by
  intro G
  induction G with
  | nil => exact fun _ => ⟨[], rfl, rfl, (fun _ h => by cases h), hnil⟩
  | cons g G ih =>
    intro h
    obtain ⟨t, ht, hwt, hct⟩ := h g (List.mem_cons_self ..)
    obtain ⟨bs, hbs, hk, hw, hc⟩ := ih (fun g' hg' => h g' (List.mem_cons_of_mem _ hg'))
    refine ⟨(g.1, t) :: bs, mapM?_cons_eq_some (by rw [ht]; rfl) hbs, ?_, ?_, ?_⟩
    · rw [List.map_cons, List.map_cons, hk]
    · intro b hb
      rcases List.mem_cons.1 hb with rfl | hb
      · exact hwt
      · exact hw b hb
    · unfold c1 at hc ⊢
      rw [List.flatMap_cons, List.flatMap_cons, List.map_append, pre_map_lift1]
      exact happ (hmap _ hct) hc

theorem unflat1_spec (dflt : ν) (r : Nat) (hd tl : κ → κ) (hH : LexSplit hd tl)
    (l : List (κ × Tree κ ν r)) (hs : Sorted l) (hw : ∀ x ∈ l, WF r x.2) :
    ∃ G, unflat1 hd tl l = some G ∧ Sorted G ∧
      (∀ g ∈ G, Sorted g.2 ∧ ∀ e ∈ g.2, WF r e.2) ∧
      c2 dflt r G = (c1 dflt r l).map (fun pv => (splitTop hd tl 0 pv.1, pv.2)) := by
  cases l with
  | nil => exact ⟨[], rfl, List.Pairwise.nil, fun _ h => (List.not_mem_nil h).elim, rfl⟩
  | cons x rest =>
    obtain ⟨hS, _, hG, hc⟩ := unflatLoop_spec dflt r hd tl rest (hd x.1) [(tl x.1, x.2)]
      (LoopInv.start (loopOk_of_sorted hH hs) hw)
    refine ⟨_, rfl, hS, hG, ?_⟩
    · -- both sides list, element by element, `hd c :: tl c :: p` for the points `c :: p`
      rw [hc, c1_single]
      show _ = ((x :: rest).flatMap _).map _
      rw [List.map_flatMap, List.flatMap_cons]
      simp only [pre, List.map_map]
      rfl

theorem splitTop_pre (hd tl : κ → κ) (l : Nat) (c : κ) (L : List (List κ × ν)) :
    (pre c L).map (fun pv => (splitTop hd tl (l + 1) pv.1, pv.2)) =
      pre (hd c) ((pre (tl c) L).map (fun pv => (splitTop hd tl l pv.1, pv.2))) := by
  unfold pre
  rw [List.map_map, List.map_map, List.map_map]
  rfl

/-- the sub-trees at depth `k` (one per stored path) -/
def subsAt (a : Nat) : (k : Nat) → Tree κ ν (a + k) → List (Tree κ ν a)
  | 0, t => [t]
  | k + 1, f => (show List (κ × Tree κ ν (a + k)) from f).flatMap (fun e => subsAt a k e.2)

theorem atDepth_spec {R : List (List κ × ν) → List (List κ × ν) → Prop} (hnil : R [] [])
    (happ : ∀ {a b c d}, R a b → R c d → R (a ++ c) (b ++ d))
    (hmap : ∀ {a b} (f : List κ × ν → List κ × ν), R a b → R (a.map f) (b.map f))
    (dflt dflt' : ν) (a b : Nat) (g : Tree κ ν a → Option (Tree κ ν b)) (φ : List κ → List κ) :
    ∀ (k : Nat) (t : Tree κ ν (a + k)), WF (a + k) t →
      (∀ s ∈ subsAt a k t, WF a s → ∃ s', g s = some s' ∧ WF b s' ∧
        R (content dflt' b s') ((content dflt a s).map (fun pv => (φ pv.1, pv.2)))) →
      ∃ t', atDepth g k t = some t' ∧ WF (b + k) t' ∧
        R (content dflt' (b + k) t') ((content dflt (a + k) t).map (fun pv => (liftN φ k pv.1, pv.2))) := by
  intro k
  induction k with
  | zero => exact fun t hw h => h t (List.mem_singleton.2 rfl) hw
  | succ k ih =>
    intro f hw h
    obtain ⟨bs, hbs, hk, hwb, hc⟩ := mapM?_level hnil happ hmap dflt dflt' (a + k) (b + k)
      (atDepth g k) (liftN φ k) (show List (κ × Tree κ ν (a + k)) from f)
      (fun e he => ih e.2 (hw.2 e he) (fun s hs => h s (List.mem_flatMap.2 ⟨e, he, hs⟩)))
    refine ⟨show List (κ × Tree κ ν (b + k)) from bs, ?_, ⟨sorted_of_keys_eq hk hw.1, hwb⟩, hc⟩
    unfold atDepth
    exact congrArg (Option.map _) hbs

/-- image of a point under flatten(pair) / reverse / unflatten -/
def swapPt (comb : κ → κ → κ) (rev hd tl : κ → κ) (p : List κ) : List κ :=
  splitTop hd tl 0 (match join2 comb p with
    | c :: rest => rev c :: rest
    | [] => [])

theorem c1_map_key (dflt : ν) (r : Nat) (ρ : κ → κ) (l : List (κ × Tree κ ν r)) :
    c1 dflt r (l.map (fun e => (ρ e.1, e.2))) =
      (c1 dflt r l).map (fun pv => ((match pv.1 with | c :: rest => ρ c :: rest | [] => []), pv.2)) := by
  unfold c1
  rw [List.flatMap_map, List.map_flatMap]
  simp only [pre, List.map_map]
  rfl

theorem unflat1_rekey_spec (dflt : ν) (r : Nat) (ρ hd tl : κ → κ) (hH : LexSplit hd tl)
    (L : List (κ × Tree κ ν r)) (hw : ∀ x ∈ L, WF r x.2)
    (hinj : L.Pairwise (fun a b => ρ a.1 ≠ ρ b.1)) :
    ∃ G, unflat1 hd tl (isort (L.map (fun e => (ρ e.1, e.2)))) = some G ∧
      WF (r + 2) (show Tree κ ν (r + 2) from (show List (κ × Tree κ ν (r + 1)) from G)) ∧
      (c2 dflt r G).Perm ((c1 dflt r L).map (fun pv =>
        (splitTop hd tl 0 (match pv.1 with | c :: rest => ρ c :: rest | [] => []), pv.2))) := by
  have hp := isort_perm (L.map (fun e => (ρ e.1, e.2)))
  obtain ⟨G, hG, hGs, hGg, hGc⟩ := unflat1_spec dflt r hd tl hH (isort (L.map (fun e => (ρ e.1, e.2))))
    (isort_sorted _ (by rw [List.pairwise_map]; exact hinj))
    (fun x hx => by
      obtain ⟨y, hy, rfl⟩ := List.mem_map.1 (hp.mem_iff.1 hx)
      exact hw y hy)
  refine ⟨G, hG, ⟨hGs, hGg⟩, ?_⟩
  have h1 : (c1 dflt r (isort (L.map (fun e => (ρ e.1, e.2))))).Perm
      ((c1 dflt r L).map (fun pv => ((match pv.1 with | c :: rest => ρ c :: rest | [] => []), pv.2))) := by
    rw [← c1_map_key]
    unfold c1
    exact List.Perm.flatMap_right _ hp
  rw [hGc]
  refine (h1.map _).trans (List.Perm.of_eq ?_)
  rw [List.map_map]
  rfl

theorem swapFiber_spec (comb : κ → κ → κ) (rev hd tl : κ → κ) (hH : LexSplit hd tl) (dflt : ν) (r : Nat)
    (f : Tree κ ν (r + 2)) (hw : WF (r + 2) f)
    (hmono : Sorted (show List (κ × Tree κ ν r) from flat2 comb dflt r f))
    (hne : isEmpty dflt (r + 2) f = false) (hinj : ∀ a b : κ, rev a = rev b → a = b) :
    ∃ g, swapFiber comb rev hd tl dflt r f = some g ∧ WF (r + 2) g ∧
      (content dflt (r + 2) g).Perm
        ((content dflt (r + 2) f).map (fun pv => (swapPt comb rev hd tl pv.1, pv.2))) := by
  have hfl : (show List (κ × Tree κ ν r) from flat2 comb dflt r f) ≠ [] := by
    intro h
    -- no element, no content: then `f` has none either
    have hc : content dflt (r + 1) (flat2 comb dflt r f) = [] := by
      show c1 dflt r (show List (κ × Tree κ ν r) from flat2 comb dflt r f) = []
      rw [h]; rfl
    rw [content_flat2, List.map_eq_nil_iff, ← isEmpty_iff_content, hne] at hc
    cases hc
  obtain ⟨G, hG, hGw, hGc⟩ := unflat1_rekey_spec dflt r rev hd tl hH _ (flat2_sub_wf comb dflt r f hw)
    ((sorted_keys_ne hmono).imp (fun hab he => hab (hinj _ _ he)))
  refine ⟨show List (κ × Tree κ ν (r + 1)) from G, ?_, hGw, ?_⟩
  · unfold swapFiber
    rw [merge2_sorted comb mfRaise dflt dflt r f hmono]
    dsimp only  -- the `match` of `swapFiber` on `some (flat2 …)`
    rw [if_neg (fun h => hfl (List.isEmpty_iff.1 h))]
    exact congrArg (Option.map _) hG
  · refine hGc.trans (List.Perm.of_eq ?_)
    show List.map _ (content dflt (r + 1) (flat2 comb dflt r f)) = _
    rw [content_flat2, List.map_map]
    rfl

theorem atDepth_bind {a b c : Nat} (g1 : Tree κ ν a → Option (Tree κ ν b)) (g2 : Tree κ ν b → Option (Tree κ ν c)) :
    ∀ (k : Nat) (t : Tree κ ν (a + k)) (u : Tree κ ν (b + k)), atDepth g1 k t = some u →
      atDepth g2 k u = atDepth (fun s => (g1 s).bind g2) k t := by
  intro k
  induction k with
  | zero =>
    intro t u h
    show g2 u = (g1 t).bind g2
    have h' : g1 t = some u := h
    rw [h']; rfl
  | succ k ih =>
    intro f u h
    unfold atDepth at h
    cases hm : mapM? (fun e => (atDepth g1 k e.2).map (fun t => (e.1, t)))
        (show List (κ × Tree κ ν (a + k)) from f) with
    | none => rw [hm] at h; cases h
    | some bs =>
      rw [hm] at h
      have hu : (show List (κ × Tree κ ν (b + k)) from bs) = u := Option.some.inj h
      subst hu
      have := mapM?_keyed_bind (atDepth g1 k) (atDepth g2 k) (atDepth (fun s => (g1 s).bind g2) k)
        (show List (κ × Tree κ ν (a + k)) from f) bs hm
        (fun e _ v hv => ih e.2 v hv)
      unfold atDepth
      exact congrArg (Option.map _) this

/-- the tensor-level guard `all(fiber.isEmpty() for fiber in ranks[k].fibers)` is emptiness of the tensor -/
theorem allEmptyAt_eq_isEmpty (dflt : ν) (a : Nat) : ∀ (k : Nat) (t : Tree κ ν (a + 1 + k)),
    allEmptyAt dflt a k t = isEmpty dflt (a + 1 + k) t := by
  intro k
  induction k with
  | zero =>
    intro t
    show (isEmpty dflt (a + 1) t && true) = _
    rw [Bool.and_true]
  | succ k ih =>
    intro f
    unfold allEmptyAt fibersAt
    rw [List.all_flatMap]
    show _ = (show List (κ × Tree κ ν (a + 1 + k)) from f).all (fun e => isEmpty dflt (a + 1 + k) e.2)
    congr 1
    funext e
    exact ih e.2

theorem content_eq_nil_of_allEmptyAt {dflt : ν} {a k : Nat} {t : Tree κ ν (a + 1 + k)}
    (h : allEmptyAt dflt a k t = true) : content dflt (a + 1 + k) t = [] :=
  (isEmpty_iff_content dflt _ t).1 (allEmptyAt_eq_isEmpty dflt a k t ▸ h)

/-- a tensor whose content is the image of a non-empty content is not all-empty -/
theorem allEmptyAt_false_of_content_map {dflt : ν} {a k d : Nat} {u : Tree κ ν (a + 1 + k)}
    {t : Tree κ ν d} {ψ : List κ × ν → List κ × ν}
    (hc : content dflt (a + 1 + k) u = (content dflt d t).map ψ) (hne : isEmpty dflt d t = false) :
    allEmptyAt dflt a k u = false := by
  rw [allEmptyAt_eq_isEmpty, Bool.eq_false_iff, Ne, isEmpty_iff_content, hc, List.map_eq_nil_iff,
    ← isEmpty_iff_content, hne]
  exact Bool.false_ne_true

theorem defaultTree_spec (dflt : ν) : ∀ d : Nat,
    WF d (defaultTree (κ := κ) dflt d) ∧ content dflt d (defaultTree (κ := κ) dflt d) = []
  | 0 => ⟨trivial, by
      show (if (show ν from dflt) = dflt then [] else [([], dflt)]) = ([] : List (List κ × ν))
      simp⟩
  | _ + 1 => ⟨⟨List.Pairwise.nil, fun _ h => by cases h⟩, rfl⟩

end transforms

section coord
variable {α : Type} [LT α] [DecidableRel (α := α) (· < ·)] [DecidableEq α] [StrictTotal α]

theorem append_lt_of_lt_same_length : ∀ {a a' : List α}, a < a' → a.length = a'.length →
    ∀ x y : List α, a ++ x < a' ++ y := by
  intro a
  induction a with
  | nil =>
    intro a' h hl
    cases a' with
    | nil => exact absurd h (List.not_lt_nil _)
    | cons _ _ => cases hl
  | cons p a ih =>
    intro a' h hl x y
    cases a' with
    | nil => cases hl
    | cons q a' =>
      rcases List.cons_lt_cons_iff.1 h with h1 | ⟨h1, h2⟩
      · exact List.cons_lt_cons_iff.2 (Or.inl h1)
      · exact List.cons_lt_cons_iff.2 (Or.inr ⟨h1, ih h2 (Nat.succ.inj hl) x y⟩)

variable {π : Type}

theorem sorted_pairs_append (n : Nat) {f : Fib (List α) (Fib (List α) π)}
    (hs : Sorted f) (hsub : ∀ e ∈ f, Sorted e.2) (hn : ∀ e ∈ f, e.1.length = n) :
    Sorted (pairsOf (fun a b => a ++ b) f) := by
  unfold pairsOf Sorted
  rw [List.pairwise_flatMap]
  refine ⟨fun e he => ?_, List.Pairwise.imp_of_mem ?_ hs⟩
  · rw [List.pairwise_map]
    exact (hsub e he).imp (fun hab => List.append_left_lt hab)
  · intro e e' he he' hlt x hx y hy
    obtain ⟨x', _, rfl⟩ := List.mem_map.1 hx
    obtain ⟨y', _, rfl⟩ := List.mem_map.1 hy
    exact append_lt_of_lt_same_length hlt ((hn e he).trans (hn e' he').symm) _ _

end coord

section coordtree
variable {α : Type} [LT α] [DecidableRel (α := α) (· < ·)] [DecidableEq α] [StrictTotal α]
variable {ν : Type} [DecidableEq ν]

/-- the coordinates of the upper `l+1` of the `l+2` ranks to flatten have `ar[i]` components -/
def upperArB (r : Nat) : (l : Nat) → List Nat → Tree (List α) ν (r + 2 + l) → Bool
  | _, [], _ => false
  | 0, a :: _, f => (show List (List α × Tree (List α) ν (r + 1)) from f).all (fun e => e.1.length == a)
  | l + 1, a :: ar, f => (show List (List α × Tree (List α) ν (r + 2 + l)) from f).all
      (fun e => e.1.length == a && upperArB r l ar e.2)

theorem upperArB_nil (r : Nat) : ∀ (l : Nat) (f : Tree (List α) ν (r + 2 + l)), upperArB r l [] f = false
  | 0, _ => rfl
  | _ + 1, _ => rfl

theorem upperArB_zero {r a : Nat} {ar : List Nat} {f : Tree (List α) ν (r + 2)} :
    upperArB r 0 (a :: ar) f = true ↔
      ∀ e ∈ (show List (List α × Tree (List α) ν (r + 1)) from f), e.1.length = a := by
  unfold upperArB
  rw [List.all_eq_true]
  simp only [beq_iff_eq]

theorem upperArB_succ {r l a : Nat} {ar : List Nat} {f : Tree (List α) ν (r + 2 + (l + 1))} :
    upperArB r (l + 1) (a :: ar) f = true ↔
      ∀ e ∈ (show List (List α × Tree (List α) ν (r + 2 + l)) from f),
        e.1.length = a ∧ upperArB r l ar e.2 = true := by
  show List.all _ _ = true ↔ _
  rw [List.all_eq_true]
  simp only [Bool.and_eq_true, beq_iff_eq]

def tupleComb : Nat → List α → List α → List α := fun _ a b => a ++ b

theorem sorted_flat2_tuple (dflt : ν) (r j a : Nat) (f : Tree (List α) ν (r + 2))
    (hs : Sorted (show List (List α × Tree (List α) ν (r + 1)) from f))
    (hsub : ∀ e ∈ (show List (List α × Tree (List α) ν (r + 1)) from f),
      Sorted (show List (List α × Tree (List α) ν r) from e.2))
    (hn : ∀ e ∈ (show List (List α × Tree (List α) ν (r + 1)) from f), e.1.length = a) :
    Sorted (show List (List α × Tree (List α) ν r) from flat2 (tupleComb (α := α) j) dflt r f) := by
  show Sorted (pairsOf _ (List.map _ _))
  apply sorted_pairs_append a (sorted_map_key _ _ hs)
  · intro e he
    obtain ⟨e', he', rfl⟩ := List.mem_map.1 he
    exact present_sorted (hsub e' he')
  · intro e he
    obtain ⟨e', he', rfl⟩ := List.mem_map.1 he
    exact hn e' he'

/-- **tuple / pair styles never collide**: on a well-formed tree whose ranks hold coordinates
    of uniform arity the concatenated coordinates come out ascending at every level -/
theorem monoLv_tuple (dflt : ν) (r : Nat) : ∀ (l : Nat) (ar : List Nat) (f : Tree (List α) ν (r + 2 + l)),
    WF (r + 2 + l) f → upperArB r l ar f = true → MonoLv (tupleComb (α := α)) dflt r l f := by
  intro l
  induction l with
  | zero =>
    intro ar f hw h
    cases ar with
    | nil => rw [upperArB_nil] at h; cases h
    | cons a _ =>
      exact sorted_flat2_tuple dflt r 0 a f hw.1 (fun e he => (hw.2 e he).1) (upperArB_zero.1 h)
  | succ l IH =>
    intro ar f hw h
    cases ar with
    | nil => rw [upperArB_nil] at h; cases h
    | cons a ar =>
      have h := upperArB_succ.1 h
      have ih : ∀ e ∈ (show List (List α × Tree (List α) ν (r + 2 + l)) from f),
          MonoLv (tupleComb (α := α)) dflt r l e.2 :=
        fun e he => IH ar e.2 (hw.2 e he) (h e he).2
      refine ⟨ih, sorted_flat2_tuple dflt r (l + 1) a _ (sorted_map_key _ _ hw.1) ?_ ?_⟩
      · intro e he
        obtain ⟨e', he', rfl⟩ := List.mem_map.1 he
        exact (ih e' he').sorted
      · intro e he
        obtain ⟨e', he', rfl⟩ := List.mem_map.1 he
        exact (h e' he').1

/-- with integer coordinates on the flattened ranks, splitting the concatenated coordinate of a
    point gives the point back -/
theorem splitTop_joinTop_of_mem (dflt : ν) (r : Nat) :
    ∀ (l : Nat) (f : Tree (List α) ν (r + 2 + l)), upperArB r l (List.replicate (l + 1) 1) f = true →
      ∀ pv ∈ content dflt (r + 2 + l) f,
        splitTop (fun c => c.take 1) (fun c => c.drop 1) l (joinTop (tupleComb (α := α)) l pv.1) = pv.1 := by
  intro l
  induction l with
  | zero =>
    intro f h pv hpv
    obtain ⟨e, he, y, hy, rfl⟩ := mem_content_succ hpv
    obtain ⟨x, _, w, _, rfl⟩ := mem_content_succ hy
    match e.1, upperArB_zero.1 h e he with
    | [a], _ => rfl
  | succ l IH =>
    intro f h pv hpv
    obtain ⟨e, he, y, hy, rfl⟩ := mem_content_succ (d := r + 2 + l) hpv
    have h' := upperArB_succ.1 h e he
    have ih := IH e.2 h'.2 y hy
    match e.1, h'.1 with
    | [a], _ =>
      show splitTop _ _ (l + 1) (join2 _ ([a] :: joinTop tupleComb l y.1)) = [a] :: y.1
      cases hj : joinTop (tupleComb (α := α)) l y.1 with
      | nil =>
        -- then `y.1` would be empty, but it has `r + 2 + l` coordinates
        have h0 : y.1 = [] := by rw [← ih, hj]; cases l <;> rfl
        have hlen := content_point_length dflt _ e.2 y hy
        rw [h0] at hlen
        have : 0 = r + 2 + l := hlen
        omega
      | cons z zs =>
        rw [hj] at ih
        show [a] :: splitTop _ _ l (z :: zs) = _
        rw [ih]

/-- the top two ranks hold integer coordinates -/
def int2B (r : Nat) (f : Tree (List α) ν (r + 2)) : Bool :=
  (show List (List α × Tree (List α) ν (r + 1)) from f).all (fun e => e.1.length == 1 &&
    (show List (List α × Tree (List α) ν r) from e.2).all (fun x => x.1.length == 1))

theorem int2B_iff {r : Nat} {f : Tree (List α) ν (r + 2)} : int2B r f = true ↔
    ∀ e ∈ (show List (List α × Tree (List α) ν (r + 1)) from f), e.1.length = 1 ∧
      ∀ x ∈ (show List (List α × Tree (List α) ν r) from e.2), x.1.length = 1 := by
  unfold int2B
  rw [List.all_eq_true]
  refine forall₂_congr (fun e _ => ?_)
  rw [Bool.and_eq_true, List.all_eq_true]
  simp only [beq_iff_eq]

end coordtree

section parts
variable {ν : Type} [DecidableEq ν]

/-- flattening the parts of a split with absolute coordinates concatenates them, provided no
    element of a part is empty -/
theorem flat2_abs_partsTree (dflt : ν) (r : Nat) (ps : List (Part (Tree Int ν r)))
    (h : ∀ p ∈ ps, ∀ x ∈ p.elems, isEmpty dflt r x.2 = false) :
    (show List (Int × Tree Int ν r) from flat2 (fun _ c => c) dflt r (partsTree r ps)) =
      ps.flatMap (fun p => p.elems) := by
  unfold flat2 pairsOf partsTree
  show List.flatMap _ (List.map _ (List.map _ _)) = _
  rw [List.map_map, List.flatMap_map]
  apply flatMap_congr_mem
  intro p hp
  show List.map _ (present dflt r (show Tree Int ν (r + 1) from p.elems)) = p.elems
  have : present dflt r (show Tree Int ν (r + 1) from p.elems) = p.elems := by
    unfold present
    rw [List.filter_eq_self]
    intro x hx
    rw [h p hp x hx]
    rfl
  rw [this]
  exact List.map_id'' (fun _ => rfl) _

end parts

end C09
end Ft
