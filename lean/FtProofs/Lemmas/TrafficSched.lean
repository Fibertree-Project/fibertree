/-
  Helper lemmas for C17: each round of `_bufferTraffic` takes a pending row with the least padded
  key; the order in which the bindings' traces are consumed is therefore an interleaving (every
  binding sees exactly its own rows, in order), and the buffet state of a binding evolves
  independently of the others.
-/
import FtProofs.Lemmas.TrafficBasic
namespace Ft
namespace Traffic

/-- rows of binding `i` in a consumption order -/
def proj (i : Nat) (xs : List (Nat × Acc)) : List Acc := (xs.filter (fun x => decide (x.1 = i))).map (·.2)

@[simp] theorem proj_nil (i : Nat) : proj i [] = [] := rfl

theorem proj_cons (i : Nat) (x : Nat × Acc) (xs : List (Nat × Acc)) :
    proj i (x :: xs) = if x.1 = i then x.2 :: proj i xs else proj i xs := by
  unfold proj
  by_cases h : x.1 = i <;> simp [h]

theorem mem_proj {xs : List (Nat × Acc)} {y : Nat × Acc} (h : y ∈ xs) : y.2 ∈ proj y.1 xs := by
  unfold proj
  apply List.mem_map.2
  exact ⟨y, List.mem_filter.2 ⟨h, by simp⟩, rfl⟩

theorem lexLtI_isLex : IsLex (· < ·) lexLtI :=
  ⟨rfl, fun _ _ => rfl, fun _ _ => rfl, fun _ _ _ _ => rfl, Int.lt_irrefl, Int.lt_trans,
    fun h1 h2 => Int.le_antisymm (Int.not_lt.1 h2) (Int.not_lt.1 h1)⟩

theorem lexLtI_irrefl (a : List Int) : lexLtI a a = false := lexLtI_isLex.irrefl a

theorem lexLtI_trans {a b c : List Int} : lexLtI a b = true → lexLtI b c = true → lexLtI a c = true :=
  lexLtI_isLex.trans

theorem lexLtI_total {a b : List Int} : lexLtI a b = false → lexLtI b a = false → a = b :=
  lexLtI_isLex.total

theorem lexLtI_of_lt_of_not_lt {a b c : List Int} (h1 : lexLtI a b = true) (h2 : lexLtI c b = false) :
    lexLtI a c = true := by
  cases hbc : lexLtI b c
  · have := lexLtI_total hbc h2; subst this; exact h1
  · exact lexLtI_trans h1 hbc

theorem pickMin_none (L : Nat) : ∀ (ts : List (List Acc)) (i : Nat),
    pickMin L i none ts = none → ∀ t ∈ ts, t = []
  | [], _, _, t, ht => by cases ht
  | [] :: ts, i, h, t, ht => by
    rcases List.mem_cons.1 ht with rfl | ht
    · rfl
    · exact pickMin_none L ts (i + 1) (by simpa [pickMin] using h) t ht
  | (a :: r) :: ts, i, h, _, _ => by
    exfalso
    simp only [pickMin] at h
    -- once a candidate exists the result is `some`
    have : ∀ (ts : List (List Acc)) (i : Nat) (b : List Int × Nat), pickMin L i (some b) ts ≠ none := by
      intro ts
      induction ts with
      | nil => intro i b; simp [pickMin]
      | cons t ts ih =>
        intro i b
        cases t with
        | nil => simpa [pickMin] using ih (i + 1) b
        | cons a r =>
          obtain ⟨kb, ib⟩ := b
          simp only [pickMin]
          split
          · exact ih _ _
          · exact ih _ _
    exact this _ _ _ h

/-- looking at a pending row: the scan goes on with a candidate that is the old one or this row, and
    that has no greater key than either -/
theorem pickMin_cons_pending (L : Nat) (a0 : Acc) (r0 : List Acc) (ts : List (List Acc)) (i : Nat)
    (best : Option (List Int × Nat)) :
    ∃ b : List Int × Nat, pickMin L i best ((a0 :: r0) :: ts) = pickMin L (i + 1) (some b) ts ∧
      (b = (padKey L a0.stamp i, i) ∨ best = some b) ∧
      (∀ kb jb, best = some (kb, jb) → lexLtI kb b.1 = false) ∧
      lexLtI (padKey L a0.stamp i) b.1 = false := by
  cases best with
  | none =>
    exact ⟨_, rfl, Or.inl rfl, fun _ _ e => (nomatch e), lexLtI_irrefl _⟩
  | some b =>
    obtain ⟨kb, ib⟩ := b
    by_cases hlt : lexLtI (padKey L a0.stamp i) kb = true
    · refine ⟨_, by simp only [pickMin, hlt, if_true], Or.inl rfl, ?_, lexLtI_irrefl _⟩
      intro kb' jb' e; cases e
      cases hc : lexLtI kb (padKey L a0.stamp i)
      · rfl
      · have := lexLtI_trans hlt hc
        rw [lexLtI_irrefl] at this; cases this
    · refine ⟨(kb, ib), by simp only [pickMin, hlt, Bool.false_eq_true, if_false], Or.inr rfl, ?_,
        by simpa using hlt⟩
      intro kb' jb' e; cases e; exact lexLtI_irrefl _

/-- The scan `pickMin` over the traces `ts` (positions `i, i + 1, …`) with the candidate `best` found so
    far: the position `j` returned has a key `k` that is the candidate's or that of a pending row of
    `ts`, and no key of the candidate or of a pending row is smaller than `k`. -/
theorem pickMin_min (L : Nat) : ∀ (ts : List (List Acc)) (i : Nat) (best : Option (List Int × Nat)) (j : Nat),
    pickMin L i best ts = some j →
    ∃ k, ((best = some (k, j)) ∨ (∃ m a r, j = i + m ∧ ts[m]? = some (a :: r) ∧ k = padKey L a.stamp j)) ∧
         (∀ kb jb, best = some (kb, jb) → lexLtI kb k = false) ∧
         (∀ m a r, ts[m]? = some (a :: r) → lexLtI (padKey L a.stamp (i + m)) k = false)
  | [], i, best, j, h => by
    cases best with
    | none => simp [pickMin] at h
    | some b =>
      obtain ⟨k, jb⟩ := b
      simp [pickMin] at h
      subst h
      refine ⟨k, Or.inl rfl, ?_, ?_⟩
      · intro kb jb' e; cases e; exact lexLtI_irrefl _
      · intro m a r hm; simp at hm
  | [] :: ts, i, best, j, h => by
    obtain ⟨k, hk, hb, hall⟩ := pickMin_min L ts (i + 1) best j (by simpa [pickMin] using h)
    refine ⟨k, ?_, hb, ?_⟩
    · rcases hk with hk | ⟨m, a, r, h1, h2, h3⟩
      · exact Or.inl hk
      · exact Or.inr ⟨m + 1, a, r, by omega, h2, h3⟩
    · intro m a r hm
      cases m with
      | zero => simp at hm
      | succ m =>
        have := hall m a r hm
        rwa [Nat.add_assoc, Nat.add_comm 1 m] at this
  | (a0 :: r0) :: ts, i, best, j, h => by
    obtain ⟨b, he, hb, hbest, hcur⟩ := pickMin_cons_pending L a0 r0 ts i best
    rw [he] at h
    obtain ⟨k, hk, hbk, hall⟩ := pickMin_min L ts (i + 1) (some b) j h
    -- whatever is no greater than the candidate is no greater than the final key
    have le_k : ∀ c : List Int, lexLtI c b.1 = false → lexLtI c k = false := by
      intro c hc
      cases hck : lexLtI c k
      · rfl
      · have := lexLtI_of_lt_of_not_lt hck (hbk b.1 b.2 rfl)
        rw [hc] at this; cases this
    refine ⟨k, ?_, fun kb jb e => le_k kb (hbest kb jb e), ?_⟩
    · rcases hk with hk | ⟨m, a, r, h1, h2, h3⟩
      · cases hk
        rcases hb with hb | hb
        · obtain ⟨hk', hj⟩ := Prod.mk.inj hb
          exact Or.inr ⟨0, a0, r0, hj, rfl, by rw [hk', hj]⟩
        · exact Or.inl hb
      · exact Or.inr ⟨m + 1, a, r, by omega, h2, h3⟩
    · intro m a r hm
      cases m with
      | zero =>
        simp only [List.getElem?_cons_zero, Option.some.injEq, List.cons.injEq] at hm
        obtain ⟨rfl, rfl⟩ := hm
        exact le_k _ hcur
      | succ m =>
        have := hall m a r hm
        rwa [Nat.add_assoc, Nat.add_comm 1 m] at this

/-- the binding picked has a pending row, and no pending row has a smaller key -/
theorem pickMin_spec {L : Nat} {ts : List (List Acc)} {j : Nat} (h : pickMin L 0 none ts = some j) :
    ∃ a r, ts[j]? = some (a :: r) ∧
      ∀ m b r', ts[m]? = some (b :: r') → lexLtI (padKey L b.stamp m) (padKey L a.stamp j) = false := by
  obtain ⟨k, hk, _, hall⟩ := pickMin_min L ts 0 none j h
  rcases hk with hk | ⟨m, a, r, hj, hm, rfl⟩
  · cases hk
  · rw [Nat.zero_add] at hj; subst hj
    exact ⟨a, r, hm, fun m b r' hm => by simpa using hall m b r' hm⟩

theorem popAt_some : ∀ (i : Nat) (ts : List (List Acc)) (a : Acc) (r : List Acc),
    ts[i]? = some (a :: r) → popAt i ts = some (a, ts.set i r)
  | 0, [] :: _, _, _, h => by simp at h
  | 0, (b :: t) :: ts, a, r, h => by
    simp only [List.getElem?_cons_zero, Option.some.injEq, List.cons.injEq] at h
    obtain ⟨rfl, rfl⟩ := h
    simp [popAt]
  | i + 1, t :: ts, a, r, h => by
    simp only [List.getElem?_cons_succ] at h
    simp [popAt, popAt_some i ts a r h]
  | _, [], _, _, h => by simp at h

theorem totalLen_set {ts : List (List Acc)} {i : Nat} {a : Acc} {r : List Acc}
    (h : ts[i]? = some (a :: r)) : totalLen (ts.set i r) + 1 = totalLen ts := by
  induction ts generalizing i with
  | nil => simp at h
  | cons t ts ih =>
    cases i with
    | zero =>
      simp only [List.getElem?_cons_zero, Option.some.injEq] at h
      subst h
      simp [totalLen]; omega
    | succ i =>
      simp only [List.getElem?_cons_succ] at h
      have := ih h
      simp only [totalLen, List.set_cons_succ, List.map_cons, List.sum_cons] at this ⊢
      omega

theorem totalLen_zero {ts : List (List Acc)} (h : totalLen ts = 0) : ∀ t ∈ ts, t = [] := by
  induction ts with
  | nil => intro t ht; cases ht
  | cons t ts ih =>
    simp only [totalLen, List.map_cons, List.sum_cons] at h
    intro x hx
    rcases List.mem_cons.1 hx with rfl | hx
    · exact List.eq_nil_of_length_eq_zero (by omega)
    · exact ih (by simp only [totalLen]; omega) x hx

theorem getD_of_all_nil {ts : List (List Acc)} (h : ∀ t ∈ ts, t = []) (j : Nat) : ts.getD j [] = [] := by
  simp only [List.getD_eq_getElem?_getD]
  cases hj : ts[j]? with
  | none => rfl
  | some t => exact h t (List.mem_of_getElem? hj)

theorem getD_set_eq {α : Type} (l : List α) (i j : Nat) (v d : α) :
    (l.set i v).getD j d = if i = j ∧ i < l.length then v else l.getD j d := by
  simp only [List.getD_eq_getElem?_getD, List.getElem?_set]
  by_cases h : i = j
  · subst h
    by_cases h2 : i < l.length
    · simp [h2]
    · simp [h2]
  · simp [h]

theorem getD_set_self {α : Type} {l : List α} {i : Nat} {x : α} (h : l[i]? = some x) (v d : α) :
    (l.set i v).getD i d = v := by
  rw [getD_set_eq, if_pos ⟨rfl, (List.getElem?_eq_some_iff.1 h).1⟩]

theorem getD_set_ne {α : Type} (l : List α) {i j : Nat} (h : i ≠ j) (v d : α) :
    (l.set i v).getD j d = l.getD j d := by
  rw [getD_set_eq, if_neg (fun e => h e.1)]

theorem forall_mem_set {α : Type} {P : α → Prop} {l : List α} (h : ∀ t ∈ l, P t) {v : α} (hv : P v)
    (i : Nat) : ∀ t ∈ l.set i v, P t := by
  intro t ht
  rcases List.mem_or_eq_of_mem_set ht with h' | h'
  · exact h t h'
  · rw [h']; exact hv

/-- one round of the merge: every trace is exhausted, or the pending row with the least key is taken
    from its trace -/
theorem scheduleFuel_succ (L fuel : Nat) (ts : List (List Acc)) (hf : totalLen ts ≤ fuel + 1) :
    (scheduleFuel L (fuel + 1) ts = [] ∧ ∀ t ∈ ts, t = []) ∨
    ∃ i a r, ts[i]? = some (a :: r) ∧ totalLen (ts.set i r) ≤ fuel ∧
      scheduleFuel L (fuel + 1) ts = (i, a) :: scheduleFuel L fuel (ts.set i r) ∧
      ∀ m b r', ts[m]? = some (b :: r') → lexLtI (padKey L b.stamp m) (padKey L a.stamp i) = false := by
  cases hp : pickMin L 0 none ts with
  | none => exact Or.inl ⟨by simp only [scheduleFuel, hp], pickMin_none L ts 0 hp⟩
  | some i =>
    obtain ⟨a, r, hi, hmin⟩ := pickMin_spec hp
    have := totalLen_set hi
    exact Or.inr ⟨i, a, r, hi, by omega, by simp only [scheduleFuel, hp, popAt_some i ts a r hi], hmin⟩

theorem scheduleFuel_proj (L : Nat) : ∀ (fuel : Nat) (ts : List (List Acc)), totalLen ts ≤ fuel →
    ∀ j, proj j (scheduleFuel L fuel ts) = ts.getD j []
  | 0, ts, hf, j => (getD_of_all_nil (totalLen_zero (by omega)) j).symm
  | fuel + 1, ts, hf, j => by
    rcases scheduleFuel_succ L fuel ts hf with ⟨he, hnil⟩ | ⟨i, a, r, hi, hf', he, _⟩
    · rw [he]; exact (getD_of_all_nil hnil j).symm
    · rw [he, proj_cons, scheduleFuel_proj L fuel _ hf' j]
      by_cases hij : i = j
      · subst hij
        rw [if_pos rfl, getD_set_self hi, List.getD_eq_getElem?_getD, hi]; rfl
      · rw [if_neg hij, getD_set_ne ts hij]

theorem schedule_proj (L : Nat) (ts : List (List Acc)) (j : Nat) :
    proj j (schedule L ts) = ts.getD j [] :=
  scheduleFuel_proj L (totalLen ts) ts (Nat.le_refl _) j

theorem bg_proj (evictEnds : List Nat) (ls : Nat) (cap : Option Nat) (i : Nat) :
    ∀ (xs : List (Nat × Acc)) (g : BG), i < g.bs.length →
      (xs.foldl (bgStep evictEnds ls cap) g).bs.getD i {} =
        (proj i xs).foldl (bstep (evictEnds.getD i 0) ls) (g.bs.getD i {}) ∧
      (xs.foldl (bgStep evictEnds ls cap) g).bs.length = g.bs.length
  | [], g, _ => ⟨rfl, rfl⟩
  | x :: xs, g, hi => by
    have hbs : (bgStep evictEnds ls cap g x).bs
        = g.bs.set x.1 (bstep (evictEnds.getD x.1 0) ls (g.bs.getD x.1 {}) x.2) := rfl
    have hlen : (bgStep evictEnds ls cap g x).bs.length = g.bs.length := by rw [hbs, List.length_set]
    obtain ⟨ih1, ih2⟩ := bg_proj evictEnds ls cap i xs (bgStep evictEnds ls cap g x) (by rw [hlen]; exact hi)
    rw [List.foldl_cons, proj_cons, ih1, ih2, hlen, hbs]
    refine ⟨?_, rfl⟩
    by_cases h : x.1 = i
    · subst h; rw [getD_set_eq, if_pos ⟨rfl, hi⟩, if_pos rfl, List.foldl_cons]
    · rw [getD_set_ne _ h, if_neg h]

theorem find_key_proj (i : Nat) (p : List Nat) : ∀ (xs : List (Nat × Acc)),
    (xs.find? (fun y => decide ((y.1, y.2.point) = (i, p)))).map (·.2.stamp)
      = ((proj i xs).find? (fun a => decide (a.point = p))).map (·.stamp)
  | [] => rfl
  | y :: r => by
    have ih := find_key_proj i p r
    rw [proj_cons, List.find?_cons]
    by_cases h1 : y.1 = i
    · by_cases h2 : y.2.point = p
      · simp [h1, h2]
      · have : ¬ ((y.1, y.2.point) = (i, p)) := by
          intro e; exact h2 (Prod.mk.inj e).2
        rw [decide_eq_false this]
        simp only [h1, if_true, List.find?_cons, h2, decide_false]
        exact ih
    · have : ¬ ((y.1, y.2.point) = (i, p)) := by
        intro e; exact h1 (Prod.mk.inj e).1
      rw [decide_eq_false this]
      simp only [h1, if_false]
      exact ih

theorem scheduleFuel_nextOk (L : Nat) : ∀ (fuel : Nat) (ts : List (List Acc)), totalLen ts ≤ fuel →
    (∀ t ∈ ts, nextOkB t = true) → schedNextOkB (scheduleFuel L fuel ts) = true
  | 0, _, _, _ => rfl
  | fuel + 1, ts, hf, hok => by
    rcases scheduleFuel_succ L fuel ts hf with ⟨he, _⟩ | ⟨i, a, r, hi, hf', he, _⟩
    · rw [he]; rfl
    · have har := hok _ (List.mem_of_getElem? hi)
      rw [nextOkB_cons] at har
      rw [he]
      simp only [schedNextOkB, Bool.and_eq_true, decide_eq_true_eq]
      refine ⟨?_, scheduleFuel_nextOk L fuel _ hf' (forall_mem_set hok har.2 i)⟩
      rw [find_key_proj, scheduleFuel_proj L fuel _ hf' i, getD_set_self hi]
      exact har.1

theorem schedule_nextOk (L : Nat) (ts : List (List Acc)) (h : ∀ t ∈ ts, nextOkB t = true) :
    schedNextOkB (schedule L ts) = true :=
  scheduleFuel_nextOk L (totalLen ts) ts (Nat.le_refl _) h

end Traffic
end Ft
