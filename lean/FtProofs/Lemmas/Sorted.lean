/-
  `lookup`, `hasCoord`, `lowerBound` and `Sorted` on association lists, and the first facts about
  `WF` / `wfB` (Mathlib-free).
-/
import FtModel.Basic
import FtModel.Coiter
import FtProofs.Lemmas.ListFacts
set_option linter.unusedSectionVars false
namespace Ft
open StrictTotal

section
variable {κ : Type} [DecidableEq κ] {π ρ : Type}

theorem lookup_cons_ite (e : κ × π) (f : Fib κ π) (c : κ) :
    lookup (e :: f) c = if e.1 = c then some e.2 else lookup f c := by
  unfold lookup
  by_cases h : e.1 = c <;> simp [h]

theorem mem_of_lookup_eq_some {f : Fib κ π} {c : κ} {v : π} (h : lookup f c = some v) :
    (c, v) ∈ f := by
  induction f with
  | nil => cases h
  | cons e r ih =>
    rw [lookup_cons_ite] at h
    by_cases hc : e.1 = c
    · rw [if_pos hc] at h
      cases h; subst hc
      exact List.mem_cons_self ..
    · rw [if_neg hc] at h
      exact List.mem_cons_of_mem _ (ih h)

theorem lookup_map_payload (f : Fib κ π) (g : κ → π → ρ) (c : κ) :
    lookup (f.map (fun e => (e.1, g e.1 e.2))) c = (lookup f c).map (g c) := by
  induction f with
  | nil => rfl
  | cons e r ih =>
    rw [List.map_cons, lookup_cons_ite, lookup_cons_ite]
    by_cases hc : e.1 = c
    · rw [if_pos hc, if_pos hc, ← hc]; rfl
    · rw [if_neg hc, if_neg hc, ih]

theorem lookup_append_or (f g : Fib κ π) (c : κ) :
    lookup (f ++ g) c = (lookup f c).or (lookup g c) := by
  unfold lookup
  rw [List.find?_append]
  cases List.find? (fun e => decide (e.1 = c)) f <;> rfl

end

section
variable {κ : Type} [LT κ] {π ρ : Type}

theorem sorted_append_iff {f g : Fib κ π} :
    Sorted (f ++ g) ↔ Sorted f ∧ Sorted g ∧ ∀ x ∈ f, ∀ y ∈ g, x.1 < y.1 := List.pairwise_append

namespace Sorted

theorem filter {f : Fib κ π} (hs : Sorted f) (P : κ × π → Bool) : Sorted (f.filter P) :=
  List.Pairwise.filter P hs

theorem filterMap_key {f : Fib κ π} (hs : Sorted f) (g : κ × π → Option (κ × ρ))
    (hg : ∀ e r, g e = some r → r.1 = e.1) : Sorted (f.filterMap g) :=
  List.Pairwise.filterMap g (fun a a' h b hb b' hb' => by rw [hg a b hb, hg a' b' hb']; exact h) hs

end Sorted
end

section
variable {κ : Type} [LT κ] [DecidableRel (α := κ) (· < ·)] [DecidableEq κ] [StrictTotal κ]
variable {π α β : Type}

theorem lt_ne {a b : κ} (h : a < b) : a ≠ b := by
  intro e; subst e; exact irrefl a h

theorem lt_asymm' {a b : κ} (h : a < b) : ¬ b < a := fun h' => irrefl a (trans h h')

theorem gt_of_not_lt_ne {a b : κ} (hne : ¬ a = b) (hnlt : ¬ a < b) : b < a :=
  ((tri a b).resolve_left hnlt).resolve_left hne

theorem sorted_cons {e : κ × π} {f : Fib κ π} :
    Sorted (e :: f) ↔ (∀ x ∈ f, e.1 < x.1) ∧ Sorted f := by
  unfold Sorted; exact List.pairwise_cons

theorem Sorted.tail {e : κ × π} {f : Fib κ π} (h : Sorted (e :: f)) : Sorted f :=
  (sorted_cons.1 h).2

theorem Sorted.head_lt {e : κ × π} {f : Fib κ π} (h : Sorted (e :: f)) :
    ∀ x ∈ f, e.1 < x.1 := (sorted_cons.1 h).1

theorem sorted_nil : Sorted ([] : Fib κ π) := List.Pairwise.nil

namespace Sorted

theorem lt_of_lt_head {e : κ × π} {f : Fib κ π} (h : Sorted (e :: f)) {x : κ}
    (hx : x < e.1) : ∀ y ∈ e :: f, x < y.1 := by
  intro y hy
  rcases List.mem_cons.1 hy with rfl | hy
  · exact hx
  · exact trans hx (h.head_lt y hy)

end Sorted

theorem sortedB_iff (f : Fib κ π) : sortedB f = true ↔ Sorted f := by
  induction f with
  | nil => exact ⟨fun _ => sorted_nil, fun _ => rfl⟩
  | cons x r ih =>
    cases r with
    | nil => exact ⟨fun _ => List.pairwise_singleton _ _, fun _ => rfl⟩
    | cons y r' =>
      simp only [sortedB, Bool.and_eq_true, decide_eq_true_eq, ih]
      constructor
      · rintro ⟨hxy, hs⟩
        exact sorted_cons.2 ⟨hs.lt_of_lt_head hxy, hs⟩
      · intro h
        exact ⟨h.head_lt y (List.mem_cons_self ..), h.tail⟩

theorem lookup_nil (c : κ) : lookup ([] : Fib κ π) c = none := rfl

theorem lookup_cons (e : κ × π) (f : Fib κ π) (c : κ) :
    lookup (e :: f) c = if e.1 = c then some e.2 else lookup f c := lookup_cons_ite e f c

theorem lookup_cons_self (c : κ) (p : π) (f : Fib κ π) : lookup ((c, p) :: f) c = some p := by
  rw [lookup_cons, if_pos rfl]

theorem lookup_cons_ne {e : κ × π} {f : Fib κ π} {c : κ} (h : e.1 ≠ c) :
    lookup (e :: f) c = lookup f c := by
  rw [lookup_cons, if_neg h]

theorem lookup_eq_none_of_lt {f : Fib κ π} {c : κ} (h : ∀ x ∈ f, c < x.1) :
    lookup f c = none := by
  induction f with
  | nil => rfl
  | cons e r ih =>
    rw [lookup_cons_ne (lt_ne (h e (List.mem_cons_self ..))).symm]
    exact ih (fun x hx => h x (List.mem_cons_of_mem _ hx))

theorem hasCoord_cons (e : κ × π) (f : Fib κ π) (c : κ) :
    hasCoord (e :: f) c = (decide (e.1 = c) || hasCoord f c) := List.any_cons

/-- `hasCoord` is `lookup` with the payload forgotten, so its facts are those of `lookup` -/
theorem hasCoord_iff_lookup (f : Fib κ π) (c : κ) : hasCoord f c = (lookup f c).isSome := by
  induction f with
  | nil => rfl
  | cons e r ih =>
    rw [hasCoord_cons, lookup_cons]
    by_cases h : e.1 = c <;> simp [h, ih]

theorem hasCoord_cons_self (c : κ) (p : π) (f : Fib κ π) : hasCoord ((c, p) :: f) c = true := by
  rw [hasCoord_iff_lookup, lookup_cons_self]; rfl

theorem hasCoord_cons_ne {e : κ × π} {f : Fib κ π} {c : κ} (h : e.1 ≠ c) :
    hasCoord (e :: f) c = hasCoord f c := by
  rw [hasCoord_iff_lookup, hasCoord_iff_lookup, lookup_cons_ne h]

theorem hasCoord_eq_false_of_lt {f : Fib κ π} {c : κ} (h : ∀ x ∈ f, c < x.1) :
    hasCoord f c = false := by
  rw [hasCoord_iff_lookup, lookup_eq_none_of_lt h]; rfl

/-- lookup through a `filterMap` that keeps the keys: the keys of a sorted fiber are unique, so `g`
    decides on the one element that `lookup` finds -/
theorem lookup_filterMap_key {π' : Type} {f : Fib κ π} (hs : Sorted f) (g : κ × π → Option π') (c : κ) :
    lookup (f.filterMap (fun e => (g e).map (fun y => (e.1, y)))) c =
      (lookup f c).bind (fun x => g (c, x)) := by
  induction f with
  | nil => rfl
  | cons e r ih =>
    rw [List.filterMap_cons, lookup_cons]
    by_cases he : e.1 = c
    · subst he
      rw [if_pos rfl, Option.bind_some]
      cases hg : g e with
      | none =>
        show lookup (List.filterMap _ r) e.1 = _
        rw [ih hs.tail, lookup_eq_none_of_lt hs.head_lt]
        rfl
      | some y => exact lookup_cons_self ..
    · rw [if_neg he]
      cases hg : g e with
      | none => exact ih hs.tail
      | some y =>
        show lookup ((e.1, y) :: _) c = _
        rw [lookup_cons_ne (e := (e.1, y)) he]; exact ih hs.tail

theorem lookup_filter_of_sorted {f : Fib κ π} (hs : Sorted f) (P : κ × π → Bool) (c : κ) :
    lookup (f.filter P) c = (lookup f c).bind (fun x => if P (c, x) then some x else none) := by
  rw [← lookup_filterMap_key hs (fun e => if P e then some e.2 else none) c,
    ← List.filterMap_eq_filter]
  refine congrArg (lookup · c) (filterMap_congr' fun e _ => ?_)
  show (if P e = true then some e else none) = _
  cases P e
  · rfl
  · rfl

theorem lookup_of_sorted_mem {f : Fib κ π} (hs : Sorted f) {e : κ × π} (he : e ∈ f) :
    lookup f e.1 = some e.2 := by
  induction f with
  | nil => cases he
  | cons x r ih =>
    rcases List.mem_cons.1 he with rfl | he
    · exact lookup_cons_self ..
    · rw [lookup_cons_ne (lt_ne (hs.head_lt e he))]; exact ih hs.tail he

namespace Sorted

theorem eq_of_mem_iff {a b : Fib κ π} (ha : Sorted a) (hb : Sorted b) (h : ∀ e, e ∈ a ↔ e ∈ b) :
    a = b :=
  List.Pairwise.eq_of_mem_iff (fun _ _ => lt_asymm') ha hb h

theorem eq_of_perm {a b : Fib κ π} (ha : Sorted a) (hb : Sorted b) (hp : a.Perm b) : a = b :=
  ha.eq_of_mem_iff hb fun _ => hp.mem_iff

theorem eq_of_lookup_eq {a b : Fib κ π} (ha : Sorted a) (hb : Sorted b)
    (h : ∀ c, lookup a c = lookup b c) : a = b :=
  ha.eq_of_mem_iff hb fun e =>
    ⟨fun he => mem_of_lookup_eq_some ((h e.1).symm.trans (lookup_of_sorted_mem ha he)),
     fun he => mem_of_lookup_eq_some ((h e.1).trans (lookup_of_sorted_mem hb he))⟩

end Sorted

end

section
variable {κ ν : Type} [LT κ]
theorem WF.sorted {d : Nat} {f : Tree κ ν (d + 1)} (h : WF (d + 1) f) :
    Sorted (show List (κ × Tree κ ν d) from f) := h.1

theorem WF_succ_iff {d : Nat} {f : Tree κ ν (d + 1)} : WF (d + 1) f ↔
    Sorted (show List (κ × Tree κ ν d) from f) ∧ ∀ e ∈ (show List (κ × Tree κ ν d) from f), WF d e.2 :=
  Iff.rfl

theorem WF.sub {d : Nat} {f : Tree κ ν (d + 1)} (h : WF (d + 1) f) :
    ∀ e ∈ (show List (κ × Tree κ ν d) from f), WF d e.2 := h.2
end
section
variable {κ ν : Type} [LT κ] [DecidableRel (α := κ) (· < ·)] [DecidableEq κ] [StrictTotal κ]

theorem wfB_eq_true_iff : ∀ (d : Nat) (t : Tree κ ν d), wfB d t = true ↔ WF d t := by
  intro d
  induction d with
  | zero => intro _; exact ⟨fun _ => trivial, fun _ => rfl⟩
  | succ d ih =>
    intro f
    show (sortedB (show List (κ × Tree κ ν d) from f) &&
      (show List (κ × Tree κ ν d) from f).all (fun e => wfB d e.2)) = true ↔
      Sorted (show List (κ × Tree κ ν d) from f) ∧ ∀ e ∈ (show List (κ × Tree κ ν d) from f), WF d e.2
    rw [Bool.and_eq_true, sortedB_iff, List.all_eq_true]
    exact and_congr_right fun _ => forall₂_congr fun e _ => ih e.2

end
section
variable {κ : Type} [LT κ] [DecidableRel (α := κ) (· < ·)] [DecidableEq κ] [StrictTotal κ]
variable {π α β γ : Type}

theorem lookup_tail_head {e : κ × π} {r : Fib κ π} (h : Sorted (e :: r)) : lookup r e.1 = none :=
  lookup_eq_none_of_lt h.head_lt

theorem lookup_of_lt_head {e : κ × π} {r : Fib κ π} (h : Sorted (e :: r)) {c : κ} (hc : c < e.1) :
    lookup (e :: r) c = none := by
  apply lookup_eq_none_of_lt
  intro x hx
  rcases List.mem_cons.1 hx with rfl | hx
  · exact hc
  · exact trans hc (h.head_lt x hx)

theorem lookup_map_key (f : Fib κ π) (c c' : κ) (h : π → π) :
    lookup (f.map (fun e => if e.1 = c then (e.1, h e.2) else e)) c' =
      if c' = c then (lookup f c).map h else lookup f c' := by
  have : (fun e : κ × π => if e.1 = c then (e.1, h e.2) else e) = fun e => (e.1, if e.1 = c then h e.2 else e.2) :=
    funext fun e => by split <;> rfl
  rw [this, lookup_map_payload f (fun k p => if k = c then h p else p) c']
  by_cases hc : c' = c
  · subst hc; simp only [if_true]
  · simp only [hc, if_false, Option.map_id']

theorem exists_split_of_lookup {f : Fib κ π} {c : κ} {s : π} (hs : Sorted f) (hl : lookup f c = some s) :
    ∃ A B, f = A ++ (c, s) :: B ∧ (∀ x ∈ A, x.1 ≠ c) ∧ (∀ x ∈ B, x.1 ≠ c) := by
  induction f with
  | nil => cases hl
  | cons e r ih =>
    rw [lookup_cons] at hl
    by_cases he : e.1 = c
    · rw [if_pos he, Option.some.injEq] at hl
      exact ⟨[], r, (by rw [← he, ← hl]; rfl), (fun _ h => nomatch h),
        fun x hx h => lt_ne (hs.head_lt x hx) (he.trans h.symm)⟩
    · rw [if_neg he] at hl
      obtain ⟨A, B, rfl, hA, hB⟩ := ih hs.tail hl
      exact ⟨e :: A, B, rfl, fun x hx => (List.mem_cons.1 hx).elim (fun h => h ▸ he) (hA x), hB⟩

theorem map_key_split {A B : Fib κ π} {c : κ} (hA : ∀ x ∈ A, x.1 ≠ c) (hB : ∀ x ∈ B, x.1 ≠ c) (s : π) (g : π → π) :
    (A ++ (c, s) :: B).map (fun e => if e.1 = c then (e.1, g e.2) else e) = A ++ (c, g s) :: B := by
  have hid : ∀ l : Fib κ π, (∀ x ∈ l, x.1 ≠ c) → l.map (fun e => if e.1 = c then (e.1, g e.2) else e) = l :=
    fun l hl => (List.map_congr_left (fun x hx => if_neg (hl x hx))).trans (List.map_id' l)
  rw [List.map_append, List.map_cons, hid A hA, hid B hB, if_pos rfl]

omit [DecidableRel (α := κ) (· < ·)] [DecidableEq κ] in
theorem all_lt_of_last_lt {f : Fib κ π} {e : κ × π} {c : κ} (hs : Sorted f)
    (hl : f.getLast? = some e) (hc : e.1 < c) : ∀ x ∈ f, x.1 < c := by
  obtain ⟨ys, rfl⟩ := List.getLast?_eq_some_iff.1 hl
  intro x hx
  rcases List.mem_append.1 hx with h | h
  · exact trans ((sorted_append_iff.1 hs).2.2 x h e (List.mem_singleton_self e)) hc
  · exact List.mem_singleton.1 h ▸ hc

/-- what the order check of `append` / `extend` (`maxCoord() < coord`) buys: last below first suffices -/
theorem sorted_append_of_last_head {f g : Fib κ π} (hf : Sorted f) (hg : Sorted g)
    (h : ∀ e x, f.getLast? = some e → g.head? = some x → e.1 < x.1) : Sorted (f ++ g) := by
  cases hl : f.getLast? with
  | none => rw [List.getLast?_eq_none_iff.1 hl]; exact hg
  | some e =>
    cases g with
    | nil => rw [List.append_nil]; exact hf
    | cons x g' =>
      have hlt := all_lt_of_last_lt hf hl (h e x hl rfl)
      exact sorted_append_iff.2 ⟨hf, hg, fun a ha b hb =>
        (List.mem_cons.1 hb).elim (fun hb => hb ▸ hlt a ha) (fun hb => trans (hlt a ha) (hg.head_lt b hb))⟩

theorem sorted_of_keys_eq {π' : Type} {a : Fib κ π} {b : Fib κ π'}
    (h : b.map (fun e => e.1) = a.map (fun e => e.1)) (hs : Sorted a) : Sorted b := by
  have ha : (a.map (fun e => e.1)).Pairwise (· < ·) := by
    rw [List.pairwise_map]; exact hs
  rw [← h, List.pairwise_map] at ha
  exact ha

theorem lowerBound_cons (e : κ × π) (r : Fib κ π) (c : κ) :
    lowerBound (e :: r) c = if e.1 < c then lowerBound r c + 1 else 0 := by
  unfold lowerBound
  by_cases h : e.1 < c <;> simp [h]

theorem lowerBound_le (f : Fib κ π) (c : κ) : lowerBound f c ≤ f.length := by
  unfold lowerBound
  exact (List.takeWhile_sublist _).length_le

theorem lowerBound_take_lt (f : Fib κ π) (c : κ) : ∀ x ∈ f.take (lowerBound f c), x.1 < c := by
  induction f with
  | nil => simp
  | cons e r ih =>
    rw [lowerBound_cons]
    by_cases h : e.1 < c
    · simp only [h, if_true, List.take_succ_cons]
      intro x hx
      rcases List.mem_cons.1 hx with rfl | hx
      · exact h
      · exact ih x hx
    · simp [h]

theorem lowerBound_drop_ge {f : Fib κ π} (hs : Sorted f) (c : κ) :
    ∀ x ∈ f.drop (lowerBound f c), ¬ x.1 < c := by
  induction f with
  | nil => simp
  | cons e r ih =>
    rw [lowerBound_cons]
    by_cases h : e.1 < c
    · simp only [h, if_true, List.drop_succ_cons]
      exact ih hs.tail
    · simp only [h, if_false, List.drop_zero]
      intro x hx
      rcases List.mem_cons.1 hx with rfl | hx
      · exact h
      · intro hxc
        exact h (trans (hs.head_lt x hx) hxc)

theorem lowerBound_append_lt {l₁ l₂ : Fib κ π} {c : κ} (h : ∀ x ∈ l₁, x.1 < c) :
    lowerBound (l₁ ++ l₂) c = l₁.length + lowerBound l₂ c := by
  induction l₁ with
  | nil => simp
  | cons e r ih =>
    rw [List.cons_append, lowerBound_cons]
    simp only [h e (List.mem_cons_self ..), if_true, List.length_cons]
    rw [ih (fun x hx => h x (List.mem_cons_of_mem _ hx))]; omega

theorem lowerBound_len_of_split {P S : Fib κ π} {c : κ} (hP : ∀ x ∈ P, x.1 < c) (hS : ∀ x ∈ S, ¬ x.1 < c) :
    lowerBound (P ++ S) c = P.length := by
  rw [lowerBound_append_lt hP]
  cases S with
  | nil => rfl
  | cons e r => rw [lowerBound_cons, if_neg (hS e (List.mem_cons_self ..))]; rfl

theorem sorted_take_lt {f : Fib κ π} {n : Nat} {e : κ × π} (hs : Sorted f) (h : f[n]? = some e) :
    ∀ x ∈ f.take n, x.1 < e.1 :=
  pairwise_take_lt hs (Nat.le_refl n) h

theorem Sorted.head_le {x : Int × π} {rest : Fib Int π} (h : Sorted (x :: rest)) :
    ∀ y ∈ x :: rest, x.1 ≤ y.1 := by
  intro y hy
  rcases List.mem_cons.1 hy with rfl | hy
  · exact Int.le_refl _
  · exact Int.le_of_lt (h.head_lt y hy)

theorem mem_take_le {f : Fib Int π} (hs : Sorted f) {n : Nat} {y : Int × π} (hy : f[n]? = some y) :
    ∀ z ∈ f.take (n + 1), z.1 ≤ y.1 := by
  intro z hz
  rw [List.take_add_one, hy] at hz
  rcases List.mem_append.1 hz with h | h
  · exact Int.le_of_lt (sorted_take_lt hs hy z h)
  · simp at h; subst h; exact Int.le_refl _

end
end Ft
