/-
  C19, latency "N": the incremental merge of `Compute._merge` (negated coordinates, stacks
  popped from the end, `bisect_right`, positions) refines the insertion-buffer merge on the
  coordinates themselves (`specHeads` / `specDrain` / `insertMerge`).
-/
import FtProofs.Lemmas.Compute
import FtProofs.Lemmas.Content
namespace Ft

/-- a buffer entry as the implementation stores it -/
def negEntry (h : Int × Nat) : Int × Nat := (-h.1, h.2)

/-- the implementation's `head` list for a buffer in emission order -/
def implHead (buf : List (Int × Nat)) : List (Int × Nat) := (buf.map negEntry).reverse

/-- the implementation's list for an ascending coordinate list: negated, ascending again -/
def negRev (l : List Int) : List Int := (l.map (fun c => -c)).reverse

/-- no entry is emitted before an entry that stands in front of it -/
def NoInv (buf : List (Int × Nat)) : Prop := buf.Pairwise (fun x y => ahead y x = false)

/-- `ahead` is the emission order: smaller coordinate first, then larger list index -/
theorem ahead_iff (x y : Int × Nat) : ahead x y = true ↔ x.1 < y.1 ∨ (x.1 = y.1 ∧ y.2 < x.2) := by
  simp only [ahead, Bool.or_eq_true, Bool.and_eq_true, decide_eq_true_eq]

theorem ahead_eq_false_iff (x y : Int × Nat) :
    ahead x y = false ↔ ¬ (x.1 < y.1 ∨ (x.1 = y.1 ∧ y.2 < x.2)) := by
  rw [← ahead_iff, Bool.not_eq_true]

theorem tupLe_iff (x y : Int × Nat) : tupLe x y = true ↔ x.1 < y.1 ∨ (x.1 = y.1 ∧ x.2 ≤ y.2) := by
  simp only [tupLe, Bool.or_eq_true, Bool.and_eq_true, decide_eq_true_eq]

/-- Python's tuple order on the negated entries is the reverse of the emission order -/
theorem tupLe_negEntry (h e : Int × Nat) : tupLe (negEntry h) (negEntry e) = !ahead h e := by
  rw [Bool.eq_iff_iff, tupLe_iff, Bool.not_eq_true', ahead_eq_false_iff]
  show -h.1 < -e.1 ∨ (-h.1 = -e.1 ∧ h.2 ≤ e.2) ↔ _
  omega

theorem ahead_negtrans {x y e : Int × Nat} (h1 : ahead y e = true) (h2 : ahead x e = false) :
    ahead y x = true := by
  rw [ahead_iff] at h1 ⊢
  rw [ahead_eq_false_iff] at h2
  omega

theorem ahead_asymm {x e : Int × Nat} (h1 : ahead x e = true) : ahead e x = false := by
  rw [ahead_iff] at h1
  rw [ahead_eq_false_iff]
  omega

/-- the entries emitted before `e` form a prefix of the buffer -/
theorem partition (buf : List (Int × Nat)) (h : NoInv buf) (e : Int × Nat) :
    ∃ B1 B2, buf = B1 ++ B2 ∧ (∀ x ∈ B1, ahead x e = true) ∧ (∀ x ∈ B2, ahead x e = false) := by
  induction buf with
  | nil => exact ⟨[], [], rfl, by simp, by simp⟩
  | cons x r ih =>
    have hx := List.pairwise_cons.1 h
    by_cases hxe : ahead x e = true
    · obtain ⟨B1, B2, hr, h1, h2⟩ := ih hx.2
      refine ⟨x :: B1, B2, by rw [hr]; rfl, ?_, h2⟩
      intro y hy
      rcases List.mem_cons.1 hy with rfl | hy
      · exact hxe
      · exact h1 y hy
    · have hxe' : ahead x e = false := by simpa using hxe
      refine ⟨[], x :: r, rfl, by simp, ?_⟩
      intro y hy
      rcases List.mem_cons.1 hy with rfl | hy
      · exact hxe'
      · cases hye : ahead y e with
        | false => rfl
        | true =>
          have := ahead_negtrans hye hxe'
          rw [hx.1 y hy] at this
          cases this

theorem implHead_append (a b : List (Int × Nat)) : implHead (a ++ b) = implHead b ++ implHead a := by
  simp [implHead]

theorem implHead_cons (x : Int × Nat) (b : List (Int × Nat)) :
    implHead (x :: b) = implHead b ++ [negEntry x] := by
  simp [implHead]

theorem length_implHead (b : List (Int × Nat)) : (implHead b).length = b.length := by simp [implHead]

theorem mem_implHead {b : List (Int × Nat)} {y : Int × Nat} (h : y ∈ implHead b) :
    ∃ x ∈ b, y = negEntry x := by
  simp only [implHead, List.mem_reverse, List.mem_map] at h
  obtain ⟨x, hx, rfl⟩ := h
  exact ⟨x, hx, rfl⟩

/-- one insertion: position, resulting list, charged comparisons, and the invariant -/
theorem step_insert (buf : List (Int × Nat)) (h : NoInv buf) (e : Int × Nat) :
    c19_insertAt (implHead buf) (bisectRight (implHead buf) (negEntry e)) (negEntry e) =
      implHead (bufInsert buf e) ∧
    (implHead buf).length - bisectRight (implHead buf) (negEntry e) + 1 = bufCost buf e ∧
    NoInv (bufInsert buf e) := by
  obtain ⟨B1, B2, rfl, h1, h2⟩ := partition buf h e
  have f1 : (B1 ++ B2).filter (fun x => ahead x e) = B1 := filter_append_left h1 h2
  have f2 : (B1 ++ B2).filter (fun x => !ahead x e) = B2 :=
    filter_append_right (fun x hx => by rw [h1 x hx]; rfl) (fun x hx => by rw [h2 x hx]; rfl)
  have f3 : (B1 ++ B2).countP (fun x => ahead x e) = B1.length := by
    rw [List.countP_eq_length_filter, f1]
  have hb : bisectRight (implHead (B1 ++ B2)) (negEntry e) = B2.length := by
    unfold bisectRight
    rw [implHead_append, List.takeWhile_append_of_pos, takeWhile_all_false, List.append_nil,
      length_implHead]
    · intro y hy
      obtain ⟨x, hx, rfl⟩ := mem_implHead hy
      rw [tupLe_negEntry, h1 x hx]; rfl
    · intro y hy
      obtain ⟨x, hx, rfl⟩ := mem_implHead hy
      rw [tupLe_negEntry, h2 x hx]; rfl
  refine ⟨?_, ?_, ?_⟩
  · rw [hb]
    unfold bufInsert c19_insertAt
    rw [f1, f2, implHead_append, List.take_left' (length_implHead B2),
      List.drop_left' (length_implHead B2)]
    rw [implHead_append, implHead_cons]
    simp
  · rw [hb, length_implHead, List.length_append]
    unfold bufCost
    rw [f3]; omega
  · unfold bufInsert
    rw [f1, f2]
    have hp := List.pairwise_append.1 h
    unfold NoInv
    rw [List.pairwise_append]
    refine ⟨hp.1, ?_, ?_⟩
    · rw [List.pairwise_cons]
      exact ⟨fun y hy => h2 y hy, hp.2.1⟩
    · intro a ha b hb'
      rcases List.mem_cons.1 hb' with rfl | hb'
      · exact ahead_asymm (h1 a ha)
      · exact hp.2.2 a ha b hb'

theorem negRev_nil : negRev [] = [] := rfl

theorem negRev_cons (c : Int) (l : List Int) : negRev (c :: l) = negRev l ++ [-c] := by
  simp [negRev]

/-! ### "First insert all fibers" -/

theorem infHeads_sim (lists : List (List Int)) :
    ∀ (i : Nat) (buf : List (Int × Nat)) (cost : Nat), NoInv buf →
      infHeads i (lists.map negRev) (implHead buf) cost =
        ((specHeads i lists buf cost).1.map negRev, implHead (specHeads i lists buf cost).2.1,
          (specHeads i lists buf cost).2.2) ∧
      NoInv (specHeads i lists buf cost).2.1 := by
  induction lists with
  | nil => intro i buf cost h; exact ⟨rfl, h⟩
  | cons l ls ih =>
    intro i buf cost h
    cases l with
    | nil =>
      obtain ⟨e1, e2⟩ := ih (i + 1) buf cost h
      simp only [List.map_cons, negRev_nil, infHeads, List.getLast?_nil, specHeads]
      rw [e1]
      exact ⟨rfl, e2⟩
    | cons c l =>
      obtain ⟨s1, s2, s3⟩ := step_insert buf h (c, i)
      obtain ⟨e1, e2⟩ := ih (i + 1) (bufInsert buf (c, i)) (cost + bufCost buf (c, i)) s3
      simp only [List.map_cons, negRev_cons, infHeads, List.getLast?_concat, List.dropLast_concat, specHeads]
      have hN : negEntry (c, i) = (-c, i) := rfl
      rw [← hN, s1, s2, e1]
      exact ⟨rfl, e2⟩

/-! ### "Now build the result" -/

theorem getD_map_negRev (lists : List (List Int)) (i : Nat) :
    (lists.map negRev).getD i [] = negRev (lists.getD i []) := by
  simp only [List.getD_eq_getElem?_getD, List.getElem?_map]
  cases lists[i]? <;> rfl

theorem infDrain_sim (fuel : Nat) :
    ∀ (lists : List (List Int)) (buf : List (Int × Nat)) (out : List Int) (cost : Nat), NoInv buf →
      infDrain fuel (lists.map negRev) (implHead buf) (out.map (fun c => -c)) cost =
        ((specDrain fuel lists buf out cost).1, (specDrain fuel lists buf out cost).2.map (fun c => -c)) := by
  induction fuel with
  | zero => intro lists buf out cost h; rfl
  | succ fuel ih =>
    intro lists buf out cost h
    cases buf with
    | nil => simp [infDrain, specDrain, implHead]
    | cons x b =>
      obtain ⟨c, i⟩ := x
      have hb : NoInv b := (List.pairwise_cons.1 h).2
      simp only [infDrain, implHead_cons, List.getLast?_concat, List.dropLast_concat, specDrain, negEntry,
        getD_map_negRev]
      have hout : out.map (fun c => -c) ++ [-c] = (out ++ [c]).map (fun c => -c) := by simp
      cases hl : lists.getD i [] with
      | nil =>
        simp only [negRev_nil, List.getLast?_nil]
        rw [hout, ih lists b (out ++ [c]) cost hb]
      | cons c' l =>
        obtain ⟨s1, s2, s3⟩ := step_insert b hb (c', i)
        simp only [negRev_cons, List.getLast?_concat, List.dropLast_concat]
        have hN : negEntry (c', i) = (-c', i) := rfl
        rw [← hN, s1, s2, hout]
        have hset : (lists.map negRev).set i (negRev l) = (lists.set i l).map negRev := by
          rw [List.map_set]
        rw [hset, ih (lists.set i l) (bufInsert b (c', i)) (out ++ [c]) _ s3]

theorem pySort_neg (l : List Int) : pySort (l.map (fun c => -c)) = negRev (pySort l) := by
  apply pySort_unique
  · exact (List.reverse_perm _).trans ((pySort_perm l).map _)
  · unfold negRev
    rw [List.pairwise_reverse, List.pairwise_map]
    exact (pySort_pairwise l).imp (fun {a b} h => by
      simp only [decide_eq_true_eq] at h ⊢
      omega)

/-- `_merge(coords, radix, "N")` on the implementation's representation of the lists -/
theorem mergeInf_sim (lists : List (List Int)) :
    mergeInf (lists.map negRev) = ((insertMerge lists).1, negRev (insertMerge lists).2) := by
  obtain ⟨e1, e2⟩ := infHeads_sim lists 0 [] 0 List.Pairwise.nil
  have hlen : ((lists.map negRev).map List.length).sum = (lists.map List.length).sum := by
    simp [negRev, Function.comp_def]
  have hnil : implHead [] = [] := rfl
  unfold mergeInf insertMerge
  rw [hnil] at e1
  simp only [e1, hlen]
  have := infDrain_sim (lists.map List.length).sum (specHeads 0 lists [] 0).1 (specHeads 0 lists [] 0).2.1 []
    (specHeads 0 lists [] 0).2.2 e2
  simp only [List.map_nil] at this
  rw [this, pySort_neg]

theorem chunks_map {α β : Type} (f : α → β) (r : Nat) (l : List α) :
    chunks r (l.map f) = (chunks r l).map (List.map f) := by
  fun_induction chunks r l with
  | case1 l h =>
    rcases h with h | h
    · subst h; rw [chunks_zero]; rfl
    · subst h; simp [chunks_nil]
  | case2 l h ih =>
    have hr : r ≠ 0 := fun h0 => h (Or.inl h0)
    have hl : l ≠ [] := fun h0 => h (Or.inr h0)
    rw [chunks_cons r (l.map f) hr (by simpa using hl)]
    rw [← List.map_take, ← List.map_drop, ih]
    rfl

theorem roundsInf_eq (radix : Option Nat) (lists : List (List Int)) :
    roundsInf radix lists =
      if 2 ≤ lists.length ∧ 2 ≤ clampRadix radix lists.length then
        (((chunks (clampRadix radix lists.length) lists).map insertMerge).map (·.1)).sum +
          roundsInf radix (((chunks (clampRadix radix lists.length) lists).map insertMerge).map (·.2))
      else 0 := by
  rw [roundsInf]
  by_cases h : 2 ≤ lists.length ∧ 2 ≤ clampRadix radix lists.length <;> simp [h]

theorem roundsInf_small (radix : Option Nat) (lists : List (List Int)) (h : lists.length ≤ 1) :
    roundsInf radix lists = 0 := by
  rw [roundsInf_eq]
  have : ¬ (2 ≤ lists.length ∧ 2 ≤ clampRadix radix lists.length) := by omega
  simp [this]

/-- the rounds with latency "N" on the implementation's lists are the insertion-buffer
    rounds on the coordinate lists (and the fuel suffices); `radix'` as in `swapRounds_fin` -/
theorem swapRounds_inf (radix : Option Nat) (hr : RadixOk radix) (fuel : Nat) :
    ∀ (radix' : Option Nat) (lists : List (List Int)),
      (∀ k ≤ lists.length, clampRadix radix' k = clampRadix radix k) → lists.length ≤ fuel →
      swapRounds Lat.inf fuel radix' (lists.map negRev) = roundsInf radix lists := by
  induction fuel with
  | zero =>
    intro radix' lists _ hf
    rw [swapRounds, roundsInf_small _ _ (Nat.le_trans (List.length_map negRev ▸ hf) (Nat.zero_le 1))]
  | succ fuel ih =>
    intro radix' lists hrel hf
    rw [swapRounds, List.length_map]
    by_cases hk : lists.length ≤ 1
    · rw [if_pos hk, roundsInf_small _ _ hk]
    · have hk2 : 2 ≤ lists.length := Nat.lt_of_not_le hk
      obtain ⟨hc1, hc2⟩ := clamp_bounds radix hr lists.length hk2
      have hr0 : clampRadix radix lists.length ≠ 0 := Nat.ne_of_gt (Nat.lt_of_lt_of_le Nat.zero_lt_two hc1)
      have hlt := ceilDiv_lt hk2 hc1 hc2
      have hres : (chunks (clampRadix radix lists.length) (lists.map negRev)).map (mergeChunk Lat.inf) =
          ((chunks (clampRadix radix lists.length) lists).map insertMerge).map (fun m => (m.1, negRev m.2)) := by
        rw [chunks_map, List.map_map, List.map_map]
        exact List.map_congr_left (fun ch _ => mergeInf_sim ch)
      have hlen : ((chunks (clampRadix radix lists.length) lists).map insertMerge).length
          = ceilDiv lists.length (clampRadix radix lists.length) := by
        rw [List.length_map, length_chunks _ hr0]
      rw [if_neg hk, roundsInf_eq, if_pos ⟨hk2, hc1⟩]
      simp only [hrel _ (Nat.le_refl _), hres]
      generalize (chunks (clampRadix radix lists.length) lists).map insertMerge = ms at hlen ⊢
      have e1 : (ms.map (fun m => (m.1, negRev m.2))).map (·.1) = ms.map (·.1) := by
        rw [List.map_map]; rfl
      have e2 : (ms.map (fun m => (m.1, negRev m.2))).map (·.2) = (ms.map (·.2)).map negRev := by
        rw [List.map_map, List.map_map]; rfl
      have hlt' : (ms.map (fun m => m.2)).length < lists.length := by
        rw [List.length_map, hlen]; exact hlt
      rw [e1, e2, ih _ _ (fun k hk' => clamp_clamp radix _ k (Nat.le_trans hk' (Nat.le_of_lt hlt')))
        (Nat.le_of_lt_succ (Nat.lt_of_lt_of_le hlt' hf))]

theorem swapsAt_inf (radix : Option Nat) (hr : RadixOk radix) (lists : List (List Int)) :
    swapsAt radix Lat.inf lists = roundsInf radix (lists.map pySort) := by
  unfold swapsAt
  have : lists.map negSorted = (lists.map pySort).map negRev := by
    rw [List.map_map]; apply List.map_congr_left; intro l _; exact pySort_neg l
  rw [this, swapRounds_inf radix hr _ radix _ (fun _ _ => rfl) (by simp)]

theorem map_pySort_of_sorted (lists : List (List Int)) (h : ∀ l ∈ lists, l.Pairwise (· < ·)) :
    lists.map pySort = lists := by
  conv => rhs; rw [← List.map_id lists]
  apply List.map_congr_left
  intro l hl
  exact pySort_of_sorted l (h l hl)

theorem mergeNodes_sorted (e : Nat) :
    ∀ (depth : Nat) (t : Tree Int Int (e + 2 + depth)), WF (e + 2 + depth) t →
      ∀ lists ∈ mergeNodes e depth t, ∀ l ∈ lists, l.Pairwise (· < ·) := by
  intro depth
  induction depth with
  | zero =>
    intro (t : List (Int × Tree Int Int (e + 1))) hwf lists hl l hmem
    have hwf' : Sorted t ∧ ∀ el ∈ t, WF (e + 1) el.2 := hwf
    have hl' : lists = (t.map (fun el => coordsOf (d := e) el.2)).filter (fun l => !l.isEmpty) := by
      have : lists ∈ [(t.map (fun el => coordsOf (d := e) el.2)).filter (fun l => !l.isEmpty)] := hl
      simpa using this
    rw [hl'] at hmem
    obtain ⟨el, hel, rfl⟩ := List.mem_map.1 (List.mem_filter.1 hmem).1
    have hs : WF (e + 1) el.2 := hwf'.2 el hel
    have hs' : Sorted (show List (Int × Tree Int Int e) from el.2) := hs.1
    show ((show List (Int × Tree Int Int e) from el.2).map (·.1)).Pairwise (· < ·)
    rw [List.pairwise_map]
    exact hs'
  | succ depth ih =>
    intro (t : List (Int × Tree Int Int (e + 2 + depth))) hwf lists hl l hmem
    have hwf' : Sorted t ∧ ∀ el ∈ t, WF (e + 2 + depth) el.2 := hwf
    have hl' : lists ∈ t.flatMap (fun el => mergeNodes e depth el.2) := hl
    obtain ⟨el, hel, hin⟩ := List.mem_flatMap.1 hl'
    exact ih el.2 (hwf'.2 el hel) lists hin l hmem

end Ft
