/-
  Helper lemmas for C11: point lookups in merged / mapped / filtered association lists, the
  dense view (`denseAt`) of trees, and one level of each fiber operator (the statement at depth
  `d + 1` from the statement at depth `d`).
-/
import FtModel.Arith
import FtProofs.C04
import FtProofs.Lemmas.EqLemmas
set_option linter.unusedSectionVars false
namespace Ft
namespace Arith
open StrictTotal

section
variable {κ : Type} [LT κ] [DecidableRel (α := κ) (· < ·)] [DecidableEq κ] [StrictTotal κ]
variable {α β γ π : Type}

theorem lookup_andMerge (a : Fib κ α) (b : Fib κ β) (ha : Sorted a) (hb : Sorted b) (c : κ) :
    lookup (andMerge a b) c =
      match lookup a c, lookup b c with
      | some x, some y => some (x, y)
      | _, _ => none := by
  have h : andSpec a b =
      a.filterMap (fun e => ((lookup b e.1).map (fun pb => (e.2, pb))).map (fun v => (e.1, v))) := by
    unfold andSpec
    simp only [Option.map_map]
    rfl
  rw [and_spec a b ha hb, h, lookup_filterMap_key ha (fun e => (lookup b e.1).map (fun pb => (e.2, pb))) c]
  dsimp only
  cases lookup a c <;> cases lookup b c <;> rfl

theorem lookup_consOpt (k : κ) (o : Option α) (l : Fib κ α) (c : κ) :
    lookup (consOpt k o l) c = if k = c then o.or (lookup l c) else lookup l c := by
  cases o with
  | none => simp [consOpt]
  | some v => simp [consOpt, lookup_cons]

theorem lookup_lshiftMerge (upd : Option α → β → Option α) (a : Fib κ α) (b : Fib κ β)
    (ha : Sorted a) (hb : Sorted b) (c : κ) :
    lookup (lshiftMerge upd a b) c =
      match lookup b c with
      | none => lookup a c
      | some vb => upd (lookup a c) vb := by
  fun_induction lshiftMerge upd a b with
  | case1 a => rfl
  | case2 cb vb rb ih =>
    rw [lookup_consOpt, ih sorted_nil hb.tail, lookup_cons]
    by_cases hc : cb = c
    · subst hc; simp [lookup_tail_head hb, lookup_nil]
    · simp [hc, lookup_nil]
  | case3 pa ra ca vb rb ih =>
    rw [lookup_consOpt, ih ha.tail hb.tail, lookup_cons, lookup_cons]
    by_cases hc : ca = c
    · subst hc; simp [lookup_tail_head ha, lookup_tail_head hb]
    · simp [hc]
  | case4 ca pa ra cb vb rb hne hlt ih =>
    rw [lookup_cons, ih ha.tail hb, lookup_cons (ca, pa) ra]
    by_cases hc : ca = c
    · subst hc; simp [lookup_of_lt_head hb hlt]
    · simp [hc]
  | case5 ca pa ra cb vb rb hne hnlt ih =>
    have hgt : cb < ca := gt_of_not_lt_ne hne hnlt
    rw [lookup_consOpt, ih ha hb.tail, lookup_cons (cb, vb)]
    by_cases hc : cb = c
    · subst hc; simp [lookup_tail_head hb, lookup_of_lt_head ha hgt]
    · simp [hc]

theorem lookup_imulMerge (f : α → β → α) (g : α → α) (a : Fib κ α) (b : Fib κ β)
    (ha : Sorted a) (hb : Sorted b) (c : κ) :
    lookup (imulMerge f g a b) c =
      match lookup a c with
      | none => none
      | some x =>
        match lookup b c with
        | some y => some (f x y)
        | none => some (g x) := by
  fun_induction imulMerge f g a b with
  | case1 b => rfl
  | case2 e r =>
    rw [lookup_map_payload (e :: r) (fun _ v => g v) c]
    cases lookup (e :: r) c <;> rfl
  | case3 pa ra ca pb rb ih =>
    rw [lookup_cons, lookup_cons, lookup_cons, ih ha.tail hb.tail]
    by_cases hc : ca = c <;> simp [hc]
  | case4 ca pa ra cb pb rb hne hlt ih =>
    rw [lookup_cons, lookup_cons (ca, pa), ih ha.tail hb]
    by_cases hc : ca = c
    · subst hc; simp [lookup_of_lt_head hb hlt]
    · simp [hc]
  | case5 ca pa ra cb pb rb hne hnlt ih =>
    have hgt : cb < ca := gt_of_not_lt_ne hne hnlt
    rw [ih ha hb.tail, lookup_cons (cb, pb)]
    by_cases hc : cb = c
    · subst hc; simp [lookup_of_lt_head ha hgt]
    · simp [hc]

end

section
variable {κ : Type} [LT κ] [DecidableRel (α := κ) (· < ·)] [DecidableEq κ] [StrictTotal κ]
variable {α ν : Type}

theorem lookup_upsert [DecidableEq ν] (dflt : ν) (g : ν → ν) (f : Fib κ ν) (hs : Sorted f) (c c' : κ) :
    lookup (upsert dflt g f c) c' =
      if c = c' then some (g ((lookup f c).getD dflt)) else lookup f c' := by
  fun_induction upsert dflt g f c with
  | case1 c => rw [lookup_cons, lookup_nil]; rfl
  | case2 va r ca =>
    rw [lookup_cons, lookup_cons, lookup_cons, if_pos rfl]
    by_cases h : ca = c'
    · rw [if_pos h, if_pos h]; rfl
    · rw [if_neg h, if_neg h, if_neg h]
  | case3 ca va r c h1 h2 =>
    rw [lookup_cons, lookup_of_lt_head hs h2]
    rfl
  | case4 ca va r c h1 h2 ih =>
    rw [lookup_cons, ih hs.tail, lookup_cons, lookup_cons, if_neg h1]
    by_cases h : ca = c'
    · subst h; rw [if_pos rfl, if_pos rfl, if_neg (fun hc => h1 hc.symm)]
    · rw [if_neg h, if_neg h]

theorem upsert_keys [DecidableEq ν] (dflt : ν) (g : ν → ν) (f : Fib κ ν) (c : κ) (x : κ × ν) :
    x ∈ upsert dflt g f c → x.1 = c ∨ ∃ y ∈ f, y.1 = x.1 := by
  fun_induction upsert dflt g f c with
  | case1 c => intro hx; left; rw [List.mem_singleton.1 hx]
  | case2 va r ca =>
    intro hx
    rcases List.mem_cons.1 hx with rfl | hx
    · left; rfl
    · right; exact ⟨x, List.mem_cons_of_mem _ hx, rfl⟩
  | case3 ca va r c h1 h2 =>
    intro hx
    rcases List.mem_cons.1 hx with rfl | hx
    · left; rfl
    · right; exact ⟨x, hx, rfl⟩
  | case4 ca va r c h1 h2 ih =>
    intro hx
    rcases List.mem_cons.1 hx with rfl | hx
    · right; exact ⟨_, List.mem_cons_self .., rfl⟩
    · rcases ih hx with h | ⟨y, hy, hyx⟩
      · left; exact h
      · right; exact ⟨y, List.mem_cons_of_mem _ hy, hyx⟩

theorem upsert_sorted [DecidableEq ν] (dflt : ν) (g : ν → ν) (f : Fib κ ν) (hs : Sorted f) (c : κ) :
    Sorted (upsert dflt g f c) := by
  fun_induction upsert dflt g f c with
  | case1 c => exact sorted_cons.2 ⟨fun _ h => (by cases h), sorted_nil⟩
  | case2 va r ca => exact sorted_cons.2 ⟨hs.head_lt, hs.tail⟩
  | case3 ca va r c h1 h2 =>
    refine sorted_cons.2 ⟨?_, hs⟩
    intro x hx
    rcases List.mem_cons.1 hx with rfl | hx
    · exact h2
    · exact trans h2 (hs.head_lt x hx)
  | case4 ca va r c h1 h2 ih =>
    have hgt : ca < c := gt_of_not_lt_ne (fun h => h1 h.symm) h2
    refine sorted_cons.2 ⟨?_, ih hs.tail⟩
    intro x hx
    rcases upsert_keys dflt g r c x hx with h | ⟨y, hy, hyx⟩
    · rw [h]; exact hgt
    · rw [← hyx]; exact hs.head_lt y hy

end

section
variable {ν : Type}

theorem inRange_succ (c : Int) (n : Nat) :
    (0 ≤ c ∧ c < ((n + 1 : Nat) : Int)) ↔ (n : Int) = c ∨ (0 ≤ c ∧ c < (n : Int)) := by omega

theorem not_inRange_self (n : Nat) : ¬ (0 ≤ (n : Int) ∧ (n : Int) < (n : Int)) := by omega

theorem lookup_range_map (g : Nat → ν) (n : Nat) (c : Int) :
    lookup ((List.range n).map (fun (i : Nat) => ((i : Int), g i))) c =
      if 0 ≤ c ∧ c < (n : Int) then some (g c.toNat) else none := by
  induction n with
  | zero =>
    have : ¬ (0 ≤ c ∧ c < ((0 : Nat) : Int)) := by omega
    rw [if_neg this]; rfl
  | succ n ih =>
    rw [List.range_succ, List.map_append, lookup_append_or, ih]
    simp only [List.map_cons, List.map_nil, lookup_cons, lookup_nil]
    by_cases h3 : (n : Int) = c
    · subst h3
      rw [if_neg (not_inRange_self n), if_pos rfl, if_pos ((inRange_succ _ n).2 (Or.inl rfl)),
        Int.toNat_natCast]
      rfl
    · rw [if_neg h3, Option.or_none]
      simp only [inRange_succ c n, h3, false_or]

theorem lookup_isaddF [DecidableEq ν] [Add ν] (dflt s : ν) (n : Nat) (f : Fib Int ν) (hs : Sorted f) :
    Sorted (isaddF dflt s n f) ∧
    ∀ c : Int, lookup (isaddF dflt s n f) c =
      if 0 ≤ c ∧ c < (n : Int) then some ((lookup f c).getD dflt + s) else lookup f c := by
  induction n with
  | zero =>
    refine ⟨by simpa [isaddF] using hs, ?_⟩
    intro c
    have : ¬ (0 ≤ c ∧ c < ((0 : Nat) : Int)) := by omega
    rw [if_neg this]; rfl
  | succ n ih =>
    have hstep : isaddF dflt s (n + 1) f = upsert dflt (fun v => v + s) (isaddF dflt s n f) (n : Int) := by
      simp [isaddF, List.range_succ, List.foldl_append]
    obtain ⟨ihs, ihl⟩ := ih
    refine ⟨by rw [hstep]; exact upsert_sorted _ _ _ ihs _, ?_⟩
    intro c
    rw [hstep, lookup_upsert dflt _ _ ihs, ihl, ihl]
    by_cases h3 : (n : Int) = c
    · subst h3
      rw [if_pos rfl, if_neg (not_inRange_self n), if_pos ((inRange_succ _ n).2 (Or.inl rfl))]
    · rw [if_neg h3]
      simp only [inRange_succ c n, h3, false_or]

end

section
variable {ν ε : Type} (A : Alg ν ε)

theorem Res.rebox_rebox (r : Res ν ε) : r.rebox.rebox = r.rebox := by cases r <;> rfl

theorem Res.store_rebox (r : Res ν ε) : r.rebox.store = r.store := by cases r <;> rfl

theorem store_opSS {i : IOp} {op : BinOp} (h : i.bin = some op) (x y : ν) :
    (opSS A op x y).store = iopSpec A i x y := by
  unfold iopSpec opSS
  rw [h]
  dsimp only
  cases A.bin op x y <;> rfl

/-- `Payload.__iop__` stores the value operator's result whatever the right operand is: an
    element on the right only adds a `rebox` (its reflected method), which `store` undoes -/
theorem iopP_eq_spec (i : IOp) (kb : Kind) (x y : ν) : iopP A i kb x y = iopSpec A i x y := by
  cases i with
  | ishl => rfl
  | _ =>
    cases kb with
    | E => exact (Res.store_rebox _).trans (store_opSS A rfl x y)
    | _ => exact store_opSS A rfl x y

end

section
variable {κ ν : Type} [LT κ] [DecidableRel (α := κ) (· < ·)] [DecidableEq κ] [StrictTotal κ]
variable [DecidableEq ν]

theorem denseAt_zero (dflt : ν) (v : Tree κ ν 0) (p : List κ) : denseAt dflt 0 v p = (show ν from v) := by
  unfold denseAt; rfl

theorem denseAt_nil (dflt : ν) (d : Nat) (f : Tree κ ν (d + 1)) : denseAt dflt (d + 1) f [] = dflt := by
  simp [denseAt]

theorem denseAt_dfltTree (dflt : ν) (d : Nat) (p : List κ) :
    denseAt dflt d (dfltTree (κ := κ) dflt d) p = dflt := by
  cases d with
  | zero => simp [denseAt, dfltTree]
  | succ d =>
    cases p with
    | nil => simp [denseAt]
    | cons c p => simp [denseAt, dfltTree, lookup_nil]

theorem denseAt_cons (dflt : ν) (d : Nat) (f : Tree κ ν (d + 1)) (c : κ) (p : List κ) :
    denseAt dflt (d + 1) f (c :: p) =
      denseAt dflt d ((lookup (show List (κ × Tree κ ν d) from f) c).getD (dfltTree dflt d)) p := by
  rw [denseAt]
  cases lookup (show List (κ × Tree κ ν d) from f) c with
  | none => exact (denseAt_dfltTree dflt d p).symm
  | some t => rfl

theorem denseAt_of_isEmpty (dflt : ν) : ∀ (d : Nat) (t : Tree κ ν d) (p : List κ),
    isEmpty dflt d t = true → denseAt dflt d t p = dflt := by
  intro d
  induction d with
  | zero => intro t p h; simpa [isEmpty, denseAt] using h
  | succ d ih =>
    intro t p h
    cases p with
    | nil => exact denseAt_nil dflt d t
    | cons c p =>
      rw [denseAt_cons]
      cases hl : lookup (show List (κ × Tree κ ν d) from t) c with
      | none => exact denseAt_dfltTree dflt d p
      | some u => exact ih u p (List.all_eq_true.1 h (c, u) (mem_of_lookup_eq_some hl))

theorem lookup_present (dflt : ν) (d : Nat) (f : Tree κ ν (d + 1))
    (hs : Sorted (show List (κ × Tree κ ν d) from f)) (c : κ) :
    lookup (present dflt d f) c =
      (lookup (show List (κ × Tree κ ν d) from f) c).bind
        (fun t => if (!isEmpty dflt d t) = true then some t else none) := by
  unfold present
  exact lookup_filter_of_sorted hs _ c

/-- the dense view under `c` is that of the presented element, or of a fresh default: a stored
    element that is not presented is empty, hence default everywhere -/
theorem denseAt_cons_present (dflt : ν) (d : Nat) (f : Tree κ ν (d + 1))
    (hs : Sorted (show List (κ × Tree κ ν d) from f)) (c : κ) (p : List κ) :
    denseAt dflt (d + 1) f (c :: p) =
      denseAt dflt d ((lookup (present dflt d f) c).getD (dfltTree dflt d)) p := by
  rw [lookup_present dflt d f hs, denseAt_cons]
  cases hl : lookup (show List (κ × Tree κ ν d) from f) c with
  | none => rfl
  | some t =>
    by_cases he : isEmpty dflt d t = true
    · simp [he, denseAt_dfltTree, denseAt_of_isEmpty dflt d t p he]
    · simp [he]

theorem WF_dfltTree (dflt : ν) (d : Nat) : WF d (dfltTree (κ := κ) dflt d) := by
  cases d with
  | zero => trivial
  | succ d => exact ⟨sorted_nil, fun _ h => by cases h⟩

theorem WF_of_lookup {d : Nat} {f : Tree κ ν (d + 1)} (h : WF (d + 1) f) {c : κ} {t : Tree κ ν d}
    (hl : lookup (show List (κ × Tree κ ν d) from f) c = some t) : WF d t :=
  h.sub (c, t) (mem_of_lookup_eq_some hl)

theorem WF_of_lookup_present {dflt : ν} {d : Nat} {f : Tree κ ν (d + 1)} (h : WF (d + 1) f) {c : κ}
    {t : Tree κ ν d} (hl : lookup (present dflt d f) c = some t) : WF d t :=
  h.sub (c, t) (mem_present.1 (mem_of_lookup_eq_some hl)).1

theorem WF_getD {dflt : ν} {d : Nat} {o : Option (Tree κ ν d)} (h : ∀ t, o = some t → WF d t) :
    WF d (o.getD (dfltTree dflt d)) := by
  cases o with
  | none => exact WF_dfltTree dflt d
  | some t => exact h t rfl

theorem not_isEmpty_of_lookup_present {dflt : ν} {d : Nat} {f : Tree κ ν (d + 1)} {c : κ}
    {t : Tree κ ν d} (hl : lookup (present dflt d f) c = some t) : isEmpty dflt d t = false :=
  (mem_present.1 (mem_of_lookup_eq_some hl)).2

theorem not_isEmpty_getD_present {dflt : ν} {d : Nat} {f : Tree κ ν (d + 1)} {c : κ}
    (h : (lookup (present dflt d f) c).isSome = true) :
    isEmpty dflt d ((lookup (present dflt d f) c).getD (dfltTree dflt d)) = false := by
  obtain ⟨t, ht⟩ := Option.isSome_iff_exists.1 h
  rw [ht]
  exact not_isEmpty_of_lookup_present ht

theorem ne_of_not_isEmpty_zero {dflt : ν} {t : Tree κ ν 0} (h : isEmpty dflt 0 t = false) :
    (show ν from t) ≠ dflt := by
  simpa [isEmpty] using h

theorem mem_points_of_dense_ne (dflt : ν) : ∀ (d : Nat) (t : Tree κ ν d) (p : List κ),
    p.length = d → denseAt dflt d t p ≠ dflt → p ∈ (content dflt d t).map (·.1) := by
  intro d
  induction d with
  | zero =>
    intro t p hp hne
    have hp' : p = [] := List.eq_nil_of_length_eq_zero hp
    subst hp'
    have hne' : (show ν from t) ≠ dflt := hne
    simp [content, hne']
  | succ d ih =>
    intro t p hp hne
    cases p with
    | nil => simp at hp
    | cons c q =>
      rw [denseAt_cons] at hne
      cases hl : lookup (show List (κ × Tree κ ν d) from t) c with
      | none => rw [hl] at hne; exact absurd (denseAt_dfltTree dflt d q) hne
      | some u =>
        rw [hl] at hne
        obtain ⟨pv, hpv, hpvq⟩ := List.mem_map.1 (ih u q (by simpa using hp) hne)
        rw [content]
        refine List.mem_map.2 ⟨(c :: pv.1, pv.2), ?_, by simp [hpvq]⟩
        exact List.mem_flatMap.2 ⟨(c, u), mem_of_lookup_eq_some hl, List.mem_map.2 ⟨pv, hpv, rfl⟩⟩


theorem lookup_addT [Add ν] (dfa dfb : ν) (d : Nat) (a b : Tree κ ν (d + 1))
    (ha : WF (d + 1) a) (hb : WF (d + 1) b) (c : κ) :
    lookup (show List (κ × Tree κ ν d) from addT dfa dfb (d + 1) a b) c =
      if (lookup (present dfa d a) c).isSome = true ∨ (lookup (present dfb d b) c).isSome = true then
        some (addT dfa dfb d ((lookup (present dfa d a) c).getD (dfltTree dfa d))
                          ((lookup (present dfb d b) c).getD (dfltTree dfb d)))
      else none := by
  rw [addT]
  exact lookup_orMerge_map _ _ (present_sorted ha.sorted) (present_sorted hb.sorted)
    (fun oa ob => addT dfa dfb d (oa.getD (dfltTree dfa d)) (ob.getD (dfltTree dfb d))) c

/-- One level of the depth induction behind `fiber_add_spec`: the pointwise statement at depth
    `d + 1` from the statement at depth `d`.  Below the top level the operator is only ever
    applied to presented (non-empty) operands, which is what makes the leaf case true (`x + y`
    is the expected value only if one of them is not the default).  `mulT_dense_succ`,
    `iaddT_dense_succ` and `smulT_dense_succ` have the same shape. -/
theorem addT_dense_succ [Add ν] (dfa dfb : ν) (d : Nat)
    (ih : ∀ a b : Tree κ ν d, WF d a → WF d b → isEmpty dfa d a = false ∨ isEmpty dfb d b = false →
      ∀ q : List κ, denseAt dfa d (addT dfa dfb d a b) q =
        addExpect dfa dfb (denseAt dfa d a q) (denseAt dfb d b q))
    (a b : Tree κ ν (d + 1)) (ha : WF (d + 1) a) (hb : WF (d + 1) b) (p : List κ) :
    denseAt dfa (d + 1) (addT dfa dfb (d + 1) a b) p =
      addExpect dfa dfb (denseAt dfa (d + 1) a p) (denseAt dfb (d + 1) b p) := by
  cases p with
  | nil => simp [denseAt_nil, addExpect]
  | cons c q =>
    rw [denseAt_cons dfa d (addT dfa dfb (d + 1) a b), lookup_addT dfa dfb d a b ha hb c,
      denseAt_cons_present dfa d a ha.sorted c q, denseAt_cons_present dfb d b hb.sorted c q]
    by_cases hcond : (lookup (present dfa d a) c).isSome = true ∨ (lookup (present dfb d b) c).isSome = true
    · rw [if_pos hcond]
      exact ih _ _ (WF_getD fun _ => WF_of_lookup_present ha) (WF_getD fun _ => WF_of_lookup_present hb)
        (hcond.imp not_isEmpty_getD_present not_isEmpty_getD_present) q
    · rw [if_neg hcond]
      obtain ⟨h1, h2⟩ := not_or.1 hcond
      rw [Option.not_isSome_iff_eq_none] at h1 h2
      simp [h1, h2, denseAt_dfltTree, addExpect]

theorem lookup_mulT [Mul ν] (dflt : ν) (d : Nat) (a b : Tree κ ν (d + 1))
    (ha : WF (d + 1) a) (hb : WF (d + 1) b) (c : κ) :
    lookup (show List (κ × Tree κ ν d) from mulT dflt (d + 1) a b) c =
      match lookup (present dflt d a) c, lookup (present dflt d b) c with
      | some x, some y => some (mulT dflt d x y)
      | _, _ => none := by
  rw [mulT, lookup_map_payload (andMerge (present dflt d a) (present dflt d b))
    (fun _ (v : Tree κ ν d × Tree κ ν d) => mulT dflt d v.1 v.2) c,
    lookup_andMerge _ _ (present_sorted ha.sorted) (present_sorted hb.sorted) c]
  cases lookup (present dflt d a) c <;> cases lookup (present dflt d b) c <;> rfl

theorem mulExpect_dflt [Mul ν] {dflt x y : ν} (h : x = dflt ∨ y = dflt) : mulExpect dflt x y = dflt :=
  if_neg fun hxy => h.elim hxy.1 hxy.2

theorem mulT_dense_succ [Mul ν] (dflt : ν) (d : Nat)
    (ih : ∀ a b : Tree κ ν d, WF d a → WF d b → isEmpty dflt d a = false → isEmpty dflt d b = false →
      ∀ q : List κ, denseAt dflt d (mulT dflt d a b) q =
        mulExpect dflt (denseAt dflt d a q) (denseAt dflt d b q))
    (a b : Tree κ ν (d + 1)) (ha : WF (d + 1) a) (hb : WF (d + 1) b) (p : List κ) :
    denseAt dflt (d + 1) (mulT dflt (d + 1) a b) p =
      mulExpect dflt (denseAt dflt (d + 1) a p) (denseAt dflt (d + 1) b p) := by
  cases p with
  | nil => simp [denseAt_nil, mulExpect]
  | cons c q =>
    rw [denseAt_cons dflt d (mulT dflt (d + 1) a b), lookup_mulT dflt d a b ha hb c,
      denseAt_cons_present dflt d a ha.sorted c q, denseAt_cons_present dflt d b hb.sorted c q]
    cases h1 : lookup (present dflt d a) c with
    | none =>
      exact (denseAt_dfltTree dflt d q).trans (mulExpect_dflt (Or.inl (denseAt_dfltTree dflt d q))).symm
    | some x =>
      cases h2 : lookup (present dflt d b) c with
      | none =>
        exact (denseAt_dfltTree dflt d q).trans (mulExpect_dflt (Or.inr (denseAt_dfltTree dflt d q))).symm
      | some y =>
        exact ih x y (WF_of_lookup_present ha h1) (WF_of_lookup_present hb h2)
          (not_isEmpty_of_lookup_present h1) (not_isEmpty_of_lookup_present h2) q

theorem mulT_WF [Mul ν] (dflt : ν) : ∀ (d : Nat) (a b : Tree κ ν d), WF d a → WF d b →
    WF d (mulT dflt d a b) := by
  intro d
  induction d with
  | zero => intro a b _ _; trivial
  | succ d ih =>
    intro a b ha hb
    have hsa : Sorted (present dflt d a) := present_sorted ha.sorted
    have hsb : Sorted (present dflt d b) := present_sorted hb.sorted
    rw [mulT, and_spec _ _ hsa hsb]
    refine ⟨sorted_map_key _ (fun r => mulT dflt d r.2.1 r.2.2) (andSpec_sorted _ _ hsa), ?_⟩
    intro e he
    obtain ⟨r, hr, rfl⟩ := List.mem_map.1 he
    obtain ⟨x, hx, hxr⟩ := List.mem_filterMap.1 hr
    obtain ⟨pb, hpb, rfl⟩ := Option.map_eq_some_iff.1 hxr
    exact ih _ _ (ha.sub x (mem_present.1 hx).1) (WF_of_lookup_present hb hpb)

theorem lookup_iaddT [Add ν] (dflt : ν) (d : Nat) (a b : Tree κ ν (d + 1))
    (ha : WF (d + 1) a) (hb : WF (d + 1) b) (c : κ) :
    lookup (show List (κ × Tree κ ν d) from iaddT dflt (d + 1) a b) c =
      match lookup (present dflt d b) c with
      | none => lookup (show List (κ × Tree κ ν d) from a) c
      | some vb =>
        if removeAfter dflt d (lookup (show List (κ × Tree κ ν d) from a) c).isNone
            (iaddT dflt d ((lookup (show List (κ × Tree κ ν d) from a) c).getD (dfltTree dflt d)) vb)
        then none
        else some (iaddT dflt d ((lookup (show List (κ × Tree κ ν d) from a) c).getD (dfltTree dflt d)) vb) := by
  rw [iaddT, lookup_lshiftMerge _ _ _ ha.sorted (present_sorted hb.sorted) c]
  cases lookup (present dflt d b) c <;> rfl

theorem isEmpty_of_removeAfter (dflt : ν) : ∀ (d : Nat) (isNew : Bool) (v : Tree κ ν d),
    removeAfter dflt d isNew v = true → isEmpty dflt d v = true := by
  intro d isNew v h
  cases d with
  | zero => exact h
  | succ d =>
    have hnil : (show List (κ × Tree κ ν d) from v) = [] :=
      List.isEmpty_iff.1 (Bool.and_eq_true_iff.1 h).2
    show List.all (show List (κ × Tree κ ν d) from v) _ = true
    rw [hnil]; rfl

theorem denseAt_removeAfter (dflt : ν) (d : Nat) (isNew : Bool) (v : Tree κ ν d) (q : List κ) :
    denseAt dflt d ((if removeAfter dflt d isNew v = true then none else some v).getD (dfltTree dflt d)) q =
      denseAt dflt d v q := by
  by_cases h : removeAfter dflt d isNew v = true
  · rw [if_pos h, Option.getD_none, denseAt_dfltTree,
      denseAt_of_isEmpty dflt d v q (isEmpty_of_removeAfter dflt d isNew v h)]
  · rw [if_neg h]; rfl

theorem iaddExpect_dflt [Add ν] (dflt x : ν) : iaddExpect dflt x dflt = x := by simp [iaddExpect]

theorem iaddT_dense_succ [Add ν] (dflt : ν) (d : Nat)
    (ih : ∀ a b : Tree κ ν d, WF d a → WF d b → isEmpty dflt d b = false →
      ∀ q : List κ, denseAt dflt d (iaddT dflt d a b) q =
        iaddExpect dflt (denseAt dflt d a q) (denseAt dflt d b q))
    (a b : Tree κ ν (d + 1)) (ha : WF (d + 1) a) (hb : WF (d + 1) b) (p : List κ) :
    denseAt dflt (d + 1) (iaddT dflt (d + 1) a b) p =
      iaddExpect dflt (denseAt dflt (d + 1) a p) (denseAt dflt (d + 1) b p) := by
  cases p with
  | nil => simp [denseAt_nil, iaddExpect]
  | cons c q =>
    rw [denseAt_cons dflt d (iaddT dflt (d + 1) a b), lookup_iaddT dflt d a b ha hb c,
      denseAt_cons dflt d a, denseAt_cons_present dflt d b hb.sorted c q]
    cases h2 : lookup (present dflt d b) c with
    | none => simp [denseAt_dfltTree, iaddExpect_dflt]
    | some vb =>
      dsimp only
      rw [denseAt_removeAfter]
      exact ih _ vb (WF_getD fun _ => WF_of_lookup ha) (WF_of_lookup_present hb h2)
        (not_isEmpty_of_lookup_present h2) q

theorem denseAt_nonEmpty (dflt : ν) : ∀ (d : Nat) (t : Tree κ ν d), WF d t → ∀ p : List κ,
    denseAt dflt d (nonEmpty dflt d t) p = denseAt dflt d t p := by
  intro d
  induction d with
  | zero => intro t _ p; rfl
  | succ d ih =>
    intro t ht p
    cases p with
    | nil => rw [denseAt_nil, denseAt_nil]
    | cons c q =>
      have hdef : (show List (κ × Tree κ ν d) from nonEmpty dflt (d + 1) t) =
          (present dflt d t).map (fun e => (e.1, nonEmpty dflt d e.2)) := by
        rw [nonEmpty]; rfl
      rw [denseAt_cons, hdef,
        lookup_map_payload (present dflt d t) (fun _ (v : Tree κ ν d) => nonEmpty dflt d v) c,
        denseAt_cons_present dflt d t ht.sorted c q]
      cases hl : lookup (present dflt d t) c with
      | none => rfl
      | some u => exact ih u (WF_of_lookup_present ht hl) q

theorem lookup_imulT [Mul ν] (dflt : ν) (d : Nat) (a b : Tree κ ν (d + 1))
    (ha : WF (d + 1) a) (hb : WF (d + 1) b) (c : κ) :
    lookup (show List (κ × Tree κ ν d) from imulT dflt d a b) c =
      match lookup (show List (κ × Tree κ ν d) from a) c with
      | none => none
      | some x =>
        match lookup (present dflt d b) c with
        | some y => some (if isEmpty dflt d x then x else nonEmpty dflt d (mulT dflt d x y))
        | none => some (if isEmpty dflt d x then x else dfltTree dflt d) := by
  unfold imulT
  rw [lookup_imulMerge _ _ _ _ ha.sorted (present_sorted hb.sorted) c]
  cases lookup (show List (κ × Tree κ ν d) from a) c with
  | none => rfl
  | some x => cases lookup (present dflt d b) c <;> rfl

theorem lookup_smulT [Mul ν] (dflt s : ν) (d : Nat) (a : Tree κ ν (d + 1)) (c : κ) :
    lookup (show List (κ × Tree κ ν d) from smulT dflt s (d + 1) a) c =
      (lookup (present dflt d a) c).map (smulT dflt s d) := by
  rw [smulT]
  exact lookup_map_payload (present dflt d a) (fun _ v => smulT dflt s d v) c

theorem smulT_dense_succ [Mul ν] (dflt s : ν) (d : Nat)
    (ih : ∀ a : Tree κ ν d, WF d a → isEmpty dflt d a = false →
      ∀ q : List κ, denseAt dflt d (smulT dflt s d a) q =
        if denseAt dflt d a q ≠ dflt then s * denseAt dflt d a q else dflt)
    (a : Tree κ ν (d + 1)) (ha : WF (d + 1) a) (p : List κ) :
    denseAt dflt (d + 1) (smulT dflt s (d + 1) a) p =
      if denseAt dflt (d + 1) a p ≠ dflt then s * denseAt dflt (d + 1) a p else dflt := by
  cases p with
  | nil => simp [denseAt_nil]
  | cons c q =>
    rw [denseAt_cons dflt d (smulT dflt s (d + 1) a), lookup_smulT,
      denseAt_cons_present dflt d a ha.sorted c q]
    cases hl : lookup (present dflt d a) c with
    | none => simp [denseAt_dfltTree]
    | some t => exact ih t (WF_of_lookup_present ha hl) (not_isEmpty_of_lookup_present hl) q

end

section
variable {ν : Type} [DecidableEq ν]

/-- fiber + scalar over the whole (multi-rank) shape, leaves included: no side is ever absent,
    so the statement needs no case for the default -/
theorem saddT_dense [Add ν] (dflt s : ν) : ∀ (d : Nat) (shp : List Nat) (a : Tree Int ν d) (p : List Int),
    p.length = d →
    denseAt dflt d (saddT dflt s d shp a) p =
      if inGridB shp p = true then s + denseAt dflt d a p else dflt := by
  intro d
  induction d with
  | zero =>
    intro shp a p hp
    rw [List.eq_nil_of_length_eq_zero hp]
    cases shp <;> rfl
  | succ d ih =>
    intro shp a p hp
    match p, hp with
    | c :: q, hp =>
      rw [denseAt_cons dflt d (saddT dflt s (d + 1) shp a), saddT]
      cases shp with
      | nil => exact denseAt_dfltTree dflt d q
      | cons n ns =>
        simp only [List.headD_cons, List.tail_cons]
        rw [lookup_range_map (fun i => saddT dflt s d ns
          ((lookup (show List (Int × Tree Int ν d) from a) (i : Int)).getD (dfltTree dflt d))) n c]
        by_cases h : 0 ≤ c ∧ c < (n : Int)
        · rw [if_pos h, Int.toNat_of_nonneg h.1, Option.getD_some,
            ih ns _ q (by simpa using hp), ← denseAt_cons]
          simp [inGridB, h.1, h.2]
        · rw [if_neg h, Option.getD_none, denseAt_dfltTree, if_neg]
          intro hg
          simp only [inGridB, Bool.and_eq_true, decide_eq_true_eq] at hg
          exact h hg.1

theorem denseAt_leaf (dflt : ν) (f : Fib Int ν) (c : Int) :
    denseAt dflt 1 (leafFiber f) [c] = (lookup f c).getD dflt := by
  rw [denseAt_cons, denseAt_zero]
  rfl

end

end Arith
end Ft
