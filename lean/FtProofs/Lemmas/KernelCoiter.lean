/-
  C06 helper lemmas: cursors and the co-iteration of the participants of one loop.
  `RowsOK` is what the loop-nest proof needs from a co-iteration, whatever its style.
-/
import FtProofs.Lemmas.KernelSum
import FtProofs.Lemmas.PointLemmas
import FtProofs.C04
set_option linter.unusedSectionVars false
namespace Ft.C06
open Ft StrictTotal

theorem val_cons_some {κ ν : Type} [DecidableEq κ] (dflt : ν) (d : Nat) (f : Tree κ ν (d + 1)) (c : κ) (cs : List κ)
    (s : Tree κ ν d) (h : lookup (show List (κ × Tree κ ν d) from f) c = some s) :
    val dflt (d + 1) f (c :: cs) = val dflt d s cs := by
  simp only [val]; rw [h]

theorem val_cons_none {κ ν : Type} [DecidableEq κ] (dflt : ν) (d : Nat) (f : Tree κ ν (d + 1)) (c : κ) (cs : List κ)
    (h : lookup (show List (κ × Tree κ ν d) from f) c = none) :
    val dflt (d + 1) f (c :: cs) = dflt := by
  simp only [val]; rw [h]

section
variable {κ : Type}

/-- a tree of depth `d` read with the rank ids `ranks` -/
def Cur.ofTree (ranks : List Nat) (d : Nat) (h : ranks.length = d) (t : Tree κ Int d) : Cur κ :=
  ⟨ranks, h ▸ t⟩

theorem cval_ofTree [DecidableEq κ] (ranks : List Nat) : ∀ (d : Nat) (h : ranks.length = d) (t : Tree κ Int d)
    (σ : Nat → κ), cval (Cur.ofTree ranks d h t) σ = val (0 : Int) d t (ranks.map σ) := by
  intro d h
  subst h
  intro t σ
  rfl

end

section
variable {κ : Type} [LT κ] [DecidableRel (α := κ) (· < ·)] [DecidableEq κ] [StrictTotal κ]

/-- all operands' payloads at `c`, if every operand presents `c` -/
def allLookup {π : Type} : List (Fib κ π) → κ → Option (List π)
  | [], _ => some []
  | g :: gs, c => (lookup g c).bind (fun p => (allLookup gs c).map (fun ps => p :: ps))

theorem interAcc_spec {π : Type} (gs : List (Fib κ π)) (acc : Fib κ (List π)) (ha : Sorted acc)
    (hg : ∀ g ∈ gs, Sorted g) :
    Sorted (interAcc acc gs) ∧
    ∀ c, lookup (interAcc acc gs) c = (lookup acc c).bind (fun l => (allLookup gs c).map (fun ps => l ++ ps)) := by
  induction gs generalizing acc with
  | nil =>
    refine ⟨ha, fun c => ?_⟩
    simp only [interAcc, allLookup, Option.map_some, List.append_nil]
    cases lookup acc c <;> rfl
  | cons g gs ih =>
    have hgs : Sorted g := hg g (List.mem_cons_self ..)
    have hacc' : Sorted ((andMerge acc g).map (fun r => (r.1, r.2.1 ++ [r.2.2]))) := by
      rw [and_spec acc g ha hgs]
      exact sorted_map_key _ (fun r => r.2.1 ++ [r.2.2]) (andSpec_sorted acc g ha)
    obtain ⟨h1, h2⟩ := ih _ hacc' (fun x hx => hg x (List.mem_cons_of_mem _ hx))
    refine ⟨h1, fun c => ?_⟩
    show lookup (interAcc ((andMerge acc g).map (fun r => (r.1, r.2.1 ++ [r.2.2]))) gs) c = _
    rw [h2 c, and_spec acc g ha hgs,
      lookup_map_payload (andSpec acc g) (fun _ (p : List π × π) => p.1 ++ [p.2]) c, lookup_andSpec acc g ha c]
    simp only [allLookup]
    cases lookup acc c with
    | none => rfl
    | some l =>
      cases lookup g c with
      | none => rfl
      | some p =>
        cases allLookup gs c with
        | none => rfl
        | some ps => simp

theorem interAll_spec {π : Type} (f : Fib κ π) (fs : List (Fib κ π)) (hs : ∀ g ∈ f :: fs, Sorted g) :
    Sorted (interAll (f :: fs)) ∧ ∀ c, lookup (interAll (f :: fs)) c = allLookup (f :: fs) c := by
  have hf : Sorted f := hs f (List.mem_cons_self ..)
  have h0 : Sorted (f.map (fun e => (e.1, [e.2]))) := sorted_map_key f (fun e => [e.2]) hf
  obtain ⟨h1, h2⟩ := interAcc_spec fs _ h0 (fun g hg => hs g (List.mem_cons_of_mem _ hg))
  refine ⟨h1, fun c => ?_⟩
  show lookup (interAcc (f.map (fun e => (e.1, [e.2]))) fs) c = _
  rw [h2 c]
  have := lookup_map_payload f (fun _ (p : π) => [p]) c
  rw [this]
  simp only [allLookup]
  cases lookup f c with
  | none => rfl
  | some p =>
    cases allLookup fs c with
    | none => rfl
    | some ps => simp

def Cur.WF (c : Cur κ) : Prop := Ft.WF c.ranks.length c.t
def Cur.In (U : List κ) (c : Cur κ) : Prop := coordsInB U c.ranks.length c.t = true

theorem isPart_iff {v : Nat} {p : Cur κ} :
    isPart v p = true ↔ ∃ (rs : List Nat) (t : Tree κ Int (rs.length + 1)), p = ⟨v :: rs, t⟩ := by
  constructor
  · intro h
    obtain ⟨ranks, t⟩ := p
    cases ranks with
    | nil => simp [isPart] at h
    | cons w rs =>
      have : w = v := by simpa [isPart] using h
      subst this
      exact ⟨rs, t, rfl⟩
  · rintro ⟨rs, t, rfl⟩
    simp [isPart]

theorem lookup_present {d : Nat} (t : Tree κ Int (d + 1)) (hs : Sorted (show List (κ × Tree κ Int d) from t)) (c : κ) :
    lookup (present (0 : Int) d t) c =
      (lookup (show List (κ × Tree κ Int d) from t) c).bind (fun s => if isEmpty (0 : Int) d s then none else some s) := by
  unfold present
  rw [lookup_filter_of_sorted hs]
  cases lookup (show List (κ × Tree κ Int d) from t) c with
  | none => rfl
  | some s => cases h : isEmpty (0 : Int) d s <;> simp [h]

theorem at_cons (v : Nat) (rs : List Nat) (t : Tree κ Int (rs.length + 1))
    (h : Ft.WF (rs.length + 1) t) (c : κ) :
    Cur.at c (⟨v :: rs, t⟩ : Cur κ) =
      ⟨rs, (lookup (show List (κ × Tree κ Int rs.length) from t) c).getD (defaultTree (0 : Int) rs.length)⟩ := by
  show (⟨rs, (posLookup (show List (κ × Tree κ Int rs.length) from t) c).getD _⟩ : Cur κ) = _
  rw [posLookup_eq_lookup h.sorted]

/-- what the cursor presents at `c` is what `getPayload` returns there, unless that is empty -/
theorem lookup_elems_at (v : Nat) (rs : List Nat) (t : Tree κ Int (rs.length + 1))
    (h : Ft.WF (rs.length + 1) t) (c : κ) :
    lookup (Cur.elems (⟨v :: rs, t⟩ : Cur κ)) c =
      if (Cur.at c (⟨v :: rs, t⟩ : Cur κ)).isEmpty = true then none else some (Cur.at c (⟨v :: rs, t⟩ : Cur κ)) := by
  rw [show lookup (Cur.elems (⟨v :: rs, t⟩ : Cur κ)) c = _ from
      lookup_map_payload (present (0 : Int) rs.length t) (fun _ s => (⟨rs, s⟩ : Cur κ)) c,
    lookup_present t h.sorted, at_cons v rs t h]
  cases lookup (show List (κ × Tree κ Int rs.length) from t) c with
  | none =>
    have : isEmpty (0 : Int) rs.length (defaultTree (κ := κ) (0 : Int) rs.length) = true := by
      cases rs.length <;> simp [isEmpty, defaultTree]
    simp [Cur.isEmpty, this]
  | some x => cases hx : isEmpty (0 : Int) rs.length x <;> simp [Cur.isEmpty, hx]

theorem elems_eq_at (v : Nat) (rs : List Nat) (t : Tree κ Int (rs.length + 1))
    (h : Ft.WF (rs.length + 1) t) (c : κ) (s : Cur κ)
    (hl : lookup (Cur.elems (⟨v :: rs, t⟩ : Cur κ)) c = some s) :
    s = Cur.at c (⟨v :: rs, t⟩ : Cur κ) ∧ s.isEmpty = false := by
  rw [lookup_elems_at v rs t h] at hl
  by_cases he : (Cur.at c (⟨v :: rs, t⟩ : Cur κ)).isEmpty = true
  · rw [if_pos he] at hl; cases hl
  · rw [if_neg he] at hl
    cases hl
    exact ⟨rfl, by simpa using he⟩

theorem val_of_isEmpty {d : Nat} (t : Tree κ Int d) (hw : Ft.WF d t) (he : isEmpty (0 : Int) d t = true)
    (q : List κ) (hq : q.length = d) : val (0 : Int) d t q = 0 := by
  rw [val_eq_content (0 : Int) d t hw q hq, content_eq_nil_of_isEmpty he]; rfl

theorem coordsIn_sub {U : List κ} {d : Nat} {t : Tree κ Int (d + 1)} (h : coordsInB U (d + 1) t = true)
    {e : κ × Tree κ Int d} (he : e ∈ (show List (κ × Tree κ Int d) from t)) :
    e.1 ∈ U ∧ coordsInB U d e.2 = true := by
  have := (List.all_eq_true.1 (show (show List (κ × Tree κ Int d) from t).all _ = true from h)) e he
  simp only [Bool.and_eq_true, List.contains_iff_mem] at this
  exact this

theorem coordsIn_default (U : List κ) : ∀ d, coordsInB U d (defaultTree (κ := κ) (0 : Int) d) = true
  | 0 => rfl
  | _ + 1 => rfl

theorem at_wf (v : Nat) (rs : List Nat) (t : Tree κ Int (rs.length + 1))
    (h : Ft.WF (rs.length + 1) t) (c : κ) : (Cur.at c (⟨v :: rs, t⟩ : Cur κ)).WF := by
  rw [at_cons v rs t h]
  exact wf_getD_lookup (0 : Int) h c

theorem at_in (U : List κ) (v : Nat) (rs : List Nat) (t : Tree κ Int (rs.length + 1))
    (h : Ft.WF (rs.length + 1) t) (hin : coordsInB U (rs.length + 1) t = true) (c : κ) :
    (Cur.at c (⟨v :: rs, t⟩ : Cur κ)).In U := by
  rw [at_cons v rs t h]
  show coordsInB U rs.length _ = true
  cases hx : lookup (show List (κ × Tree κ Int rs.length) from t) c with
  | none => exact coordsIn_default U rs.length
  | some s => exact (coordsIn_sub hin (mem_of_lookup_eq_some hx)).2

theorem cval_at (v : Nat) (rs : List Nat) (t : Tree κ Int (rs.length + 1))
    (h : Ft.WF (rs.length + 1) t) (σ : Nat → κ) :
    cval (⟨v :: rs, t⟩ : Cur κ) σ = cval (Cur.at (σ v) (⟨v :: rs, t⟩ : Cur κ)) σ := by
  rw [at_cons v rs t h]
  exact val_cons (0 : Int) rs.length t (σ v) (rs.map σ)

theorem cval_upd_irrelevant (c : Cur κ) (σ : Nat → κ) (w : Nat) (x : κ) (hw : w ∉ c.ranks) :
    cval c (upd σ w x) = cval c σ := by
  unfold cval
  congr 1
  apply List.map_congr_left
  intro a ha
  exact upd_ne σ x (fun e => hw (e ▸ ha))

theorem cval_zero_of_absent (v : Nat) (rs : List Nat) (t : Tree κ Int (rs.length + 1))
    (h : Ft.WF (rs.length + 1) t) (σ : Nat → κ)
    (hl : lookup (Cur.elems (⟨v :: rs, t⟩ : Cur κ)) (σ v) = none) :
    cval (⟨v :: rs, t⟩ : Cur κ) σ = 0 := by
  rw [lookup_elems_at v rs t h] at hl
  by_cases he : (Cur.at (σ v) (⟨v :: rs, t⟩ : Cur κ)).isEmpty = true
  · rw [cval_at v rs t h σ]
    exact val_of_isEmpty _ (at_wf v rs t h (σ v)) he _ (List.length_map ..)
  · rw [if_neg he] at hl; cases hl

theorem elems_sorted (v : Nat) (rs : List Nat) (t : Tree κ Int (rs.length + 1))
    (h : Ft.WF (rs.length + 1) t) : Sorted (Cur.elems (⟨v :: rs, t⟩ : Cur κ)) :=
  sorted_map_key _ (fun e => (⟨rs, e.2⟩ : Cur κ)) (present_sorted h.sorted)

theorem elems_key_in (U : List κ) (v : Nat) (rs : List Nat) (t : Tree κ Int (rs.length + 1))
    (hin : coordsInB U (rs.length + 1) t = true) (c : κ)
    (hk : HasKey (Cur.elems (⟨v :: rs, t⟩ : Cur κ)) c) : c ∈ U := by
  obtain ⟨e, he, rfl⟩ := hk
  obtain ⟨x, hx, rfl⟩ := List.mem_map.1 he
  exact (coordsIn_sub hin (mem_present.1 hx).1).1

structure RowsOK (parts : List (Cur κ)) (rows : Fib κ (List (Cur κ))) : Prop where
  sorted : Sorted rows
  /-- every row delivers, for each participant, what `getPayload` returns at the row's coordinate -/
  sub : ∀ r ∈ rows, r.2 = parts.map (Cur.at r.1)
  /-- a coordinate that every participant presents has a row -/
  complete : ∀ c, (∀ p ∈ parts, (lookup p.elems c).isSome = true) → HasKey rows c
  /-- every row's coordinate is presented by the first participant -/
  keys : ∀ r ∈ rows, ∀ p, parts.head? = some p → HasKey p.elems r.1

/-- participants: all have `v` as their next rank and are well-formed -/
def Parts (v : Nat) (parts : List (Cur κ)) : Prop := ∀ p ∈ parts, isPart v p = true ∧ p.WF

theorem allLookup_elems (v : Nat) (parts : List (Cur κ)) (hp : Parts v parts) (c : κ) (l : List (Cur κ))
    (h : allLookup (parts.map Cur.elems) c = some l) : l = parts.map (Cur.at c) := by
  induction parts generalizing l with
  | nil => simp [allLookup] at h; simp [h]
  | cons p ps ih =>
    obtain ⟨hpv, hpw⟩ := hp p (List.mem_cons_self ..)
    obtain ⟨rs, t, rfl⟩ := isPart_iff.1 hpv
    simp only [List.map_cons, allLookup] at h
    cases hx : lookup (Cur.elems (⟨v :: rs, t⟩ : Cur κ)) c with
    | none => rw [hx] at h; cases h
    | some s =>
      rw [hx] at h
      simp only [Option.bind_some] at h
      cases hy : allLookup (ps.map Cur.elems) c with
      | none => rw [hy] at h; cases h
      | some l' =>
        rw [hy] at h
        simp only [Option.map_some, Option.some.injEq] at h
        rw [← h, List.map_cons, (elems_eq_at v rs t hpw c s hx).1,
          ih (fun q hq => hp q (List.mem_cons_of_mem _ hq)) l' hy]

theorem allLookup_isSome_iff {π : Type} (gs : List (Fib κ π)) (c : κ) :
    (allLookup gs c).isSome = true ↔ ∀ g ∈ gs, (lookup g c).isSome = true := by
  induction gs with
  | nil => simp [allLookup]
  | cons g gs ih =>
    rw [List.forall_mem_cons, ← ih]
    simp only [allLookup]
    cases lookup g c <;> cases allLookup gs c <;> simp

theorem parts_sorted (v : Nat) (parts : List (Cur κ)) (hp : Parts v parts) :
    ∀ g ∈ parts.map Cur.elems, Sorted g := by
  intro g hg
  obtain ⟨p, hpm, rfl⟩ := List.mem_map.1 hg
  obtain ⟨hpv, hpw⟩ := hp p hpm
  obtain ⟨rs, t, rfl⟩ := isPart_iff.1 hpv
  exact elems_sorted v rs t hpw

theorem rowsOK_of_allLookup (v : Nat) (p : Cur κ) (ps : List (Cur κ)) (hp : Parts v (p :: ps))
    (rows : Fib κ (List (Cur κ))) (h1 : Sorted rows)
    (h2 : ∀ c, lookup rows c = allLookup (p.elems :: ps.map Cur.elems) c) : RowsOK (p :: ps) rows := by
  refine ⟨h1, ?_, ?_, ?_⟩
  · intro r hr
    have hl := lookup_of_sorted_mem h1 hr
    rw [h2 r.1] at hl
    exact allLookup_elems v (p :: ps) hp r.1 r.2 (by simpa using hl)
  · intro c hc
    rw [hasKey_iff_lookup, h2 c]
    apply (allLookup_isSome_iff _ c).2
    intro g hg
    obtain ⟨q, hq, rfl⟩ := List.mem_map.1 (show g ∈ (p :: ps).map Cur.elems from hg)
    exact hc q hq
  · intro r hr q hq
    have : q = p := by simpa using hq.symm
    subst this
    have hl := lookup_of_sorted_mem h1 hr
    rw [h2 r.1] at hl
    rw [hasKey_iff_lookup]
    exact (allLookup_isSome_iff _ _).1 (by rw [hl]; rfl) _ (List.mem_cons_self ..)

theorem interR_spec {π : Type} (f : Fib κ π) (fs : List (Fib κ π)) (hs : ∀ g ∈ f :: fs, Sorted g) :
    Sorted (interR (f :: fs)) ∧ ∀ c, lookup (interR (f :: fs)) c = allLookup (f :: fs) c := by
  have hf : Sorted f := hs f (List.mem_cons_self ..)
  cases fs with
  | nil =>
    refine ⟨sorted_map_key f (fun e => [e.2]) hf, fun c => ?_⟩
    show lookup (f.map (fun e => (e.1, [e.2]))) c = _
    rw [lookup_map_payload f (fun _ (p : π) => [p]) c]
    simp only [allLookup]
    cases lookup f c <;> rfl
  | cons g gs =>
    obtain ⟨h1, h2⟩ := interAll_spec g gs (fun x hx => hs x (List.mem_cons_of_mem _ hx))
    have hm : interR (f :: g :: gs) =
        (andSpec f (interAll (g :: gs))).map (fun r => (r.1, r.2.1 :: r.2.2)) := by
      show (andMerge f (interAll (g :: gs))).map _ = _
      rw [and_spec f _ hf h1]
    rw [hm]
    refine ⟨sorted_map_key _ (fun r => r.2.1 :: r.2.2) (andSpec_sorted f _ hf), fun c => ?_⟩
    rw [lookup_map_payload (andSpec f (interAll (g :: gs))) (fun _ (p : π × List π) => p.1 :: p.2) c,
      lookup_andSpec f _ hf c, h2 c]
    show _ = (lookup f c).bind (fun p => (allLookup (g :: gs) c).map (fun ps => p :: ps))
    cases lookup f c with
    | none => rfl
    | some p => cases allLookup (g :: gs) c <;> rfl

/-- leader-follower, unfiltered -/
theorem rowsOK_lf (v : Nat) (parts : List (Cur κ)) (hp : Parts v parts) (hne : parts ≠ []) :
    RowsOK parts (coiter .lf parts) := by
  cases parts with
  | nil => exact absurd rfl hne
  | cons p fs =>
    obtain ⟨hpv, hpw⟩ := hp p (List.mem_cons_self ..)
    obtain ⟨rs, t, rfl⟩ := isPart_iff.1 hpv
    have hco : coiter .lf ((⟨v :: rs, t⟩ : Cur κ) :: fs) =
        (Cur.elems (⟨v :: rs, t⟩ : Cur κ)).map (fun e => (e.1, e.2 :: fs.map (Cur.at e.1))) := rfl
    rw [hco]
    have hse := elems_sorted v rs t hpw
    refine ⟨sorted_map_key _ (fun e => e.2 :: fs.map (Cur.at e.1)) hse, ?_, ?_, ?_⟩
    · intro r hr
      obtain ⟨e, he, rfl⟩ := List.mem_map.1 hr
      have hl := lookup_of_sorted_mem hse he
      simp only [List.map_cons]
      rw [(elems_eq_at v rs t hpw e.1 e.2 hl).1]
    · intro c hc
      have := hc _ (List.mem_cons_self ..)
      rw [← hasKey_iff_lookup] at this
      exact (hasKey_map_key _ _ c).2 this
    · intro r hr q hq
      have : q = ⟨v :: rs, t⟩ := by simpa using hq.symm
      subst this
      obtain ⟨e, he, rfl⟩ := List.mem_map.1 hr
      exact ⟨e, he, rfl⟩

/-- leader-follower with the emptiness filter on the followers -/
theorem rowsOK_lff (v : Nat) (parts : List (Cur κ)) (hp : Parts v parts) (hne : parts ≠ []) :
    RowsOK parts (coiter .lff parts) := by
  have hlf := rowsOK_lf v parts hp hne
  have hco : coiter .lff parts = (coiter .lf parts).filter (fun r => r.2.tail.all (fun c => !c.isEmpty)) := rfl
  rw [hco]
  refine ⟨hlf.sorted.filter _, fun r hr => hlf.sub r (List.mem_filter.1 hr).1, ?_,
    fun r hr => hlf.keys r (List.mem_filter.1 hr).1⟩
  intro c hc
  obtain ⟨r, hr, rfl⟩ := hlf.complete c hc
  refine ⟨r, List.mem_filter.2 ⟨hr, ?_⟩, rfl⟩
  rw [hlf.sub r hr]
  cases parts with
  | nil => exact absurd rfl hne
  | cons p fs =>
    simp only [List.map_cons, List.tail_cons, List.all_map, List.all_eq_true, Function.comp]
    intro f hf
    obtain ⟨hfv, hfw⟩ := hp f (List.mem_cons_of_mem _ hf)
    obtain ⟨rs, t, rfl⟩ := isPart_iff.1 hfv
    have h1 := hc _ (List.mem_cons_of_mem _ hf)
    cases hx : lookup (Cur.elems (⟨v :: rs, t⟩ : Cur κ)) r.1 with
    | none => rw [hx] at h1; cases h1
    | some s =>
      obtain ⟨e1, e2⟩ := elems_eq_at v rs t hfw r.1 s hx
      rw [← e1, e2]; rfl

theorem tf_sound (v : Nat) (parts : List (Cur κ)) (hp : Parts v parts) (hne : parts ≠ []) (c : κ)
    (hk : HasKey (coiter .tf parts) c) : ∀ p ∈ parts, (lookup p.elems c).isSome = true := by
  cases parts with
  | nil => exact absurd rfl hne
  | cons p ps =>
    obtain ⟨h1, h2⟩ := interAll_spec p.elems (ps.map Cur.elems) (parts_sorted v (p :: ps) hp)
    have hco : coiter .tf (p :: ps) = interAll (p.elems :: ps.map Cur.elems) := rfl
    rw [hco, hasKey_iff_lookup, h2 c] at hk
    intro q hq
    exact (allLookup_isSome_iff _ c).1 hk q.elems (List.mem_map.2 ⟨q, hq, rfl⟩)

theorem lff_sound (v : Nat) (parts : List (Cur κ)) (hp : Parts v parts) (hne : parts ≠ []) (c : κ)
    (hk : HasKey (coiter .lff parts) c) : ∀ p ∈ parts, (lookup p.elems c).isSome = true := by
  have hlf := rowsOK_lf v parts hp hne
  have hco : coiter .lff parts = (coiter .lf parts).filter (fun r => r.2.tail.all (fun c => !c.isEmpty)) := rfl
  rw [hco] at hk
  obtain ⟨r, hr, rfl⟩ := hk
  obtain ⟨hr1, hr2⟩ := List.mem_filter.1 hr
  cases parts with
  | nil => exact absurd rfl hne
  | cons p fs =>
    intro q hq
    rcases List.mem_cons.1 hq with rfl | hq
    · rw [← hasKey_iff_lookup]
      exact hlf.keys r hr1 q rfl
    · rw [hlf.sub r hr1] at hr2
      simp only [List.map_cons, List.tail_cons, List.all_map, List.all_eq_true, Function.comp] at hr2
      have hqe := hr2 q hq
      obtain ⟨hqv, hqw⟩ := hp q (List.mem_cons_of_mem _ hq)
      obtain ⟨rs, t, rfl⟩ := isPart_iff.1 hqv
      rw [lookup_elems_at v rs t hqw, if_neg (by simpa using hqe)]
      rfl

theorem rowsOK (style : Style) (v : Nat) (parts : List (Cur κ)) (hp : Parts v parts) (hne : parts ≠ []) :
    RowsOK parts (coiter style parts) := by
  cases style with
  | tf =>
    -- `&`, left-nested or through `Fiber.intersection`
    cases parts with
    | nil => exact absurd rfl hne
    | cons p ps =>
      obtain ⟨h1, h2⟩ := interAll_spec p.elems (ps.map Cur.elems) (parts_sorted v (p :: ps) hp)
      exact rowsOK_of_allLookup v p ps hp _ h1 h2
  | tfr =>
    -- a lazy right operand: `a & (b & c)`, hoisted or not
    cases parts with
    | nil => exact absurd rfl hne
    | cons p ps =>
      obtain ⟨h1, h2⟩ := interR_spec p.elems (ps.map Cur.elems) (parts_sorted v (p :: ps) hp)
      exact rowsOK_of_allLookup v p ps hp _ h1 h2
  | lf => exact rowsOK_lf v parts hp hne
  | lff => exact rowsOK_lff v parts hp hne

end
end Ft.C06
