/-
  C16: the coordinates and positions the iterators pass to `addUse` name an element of
  the fiber that is read (position = index in the sequence the iterator enumerates).
-/
import FtProofs.Lemmas.TraceEmit
namespace Ft.C16

section
variable {σ S π : Type}

theorem iterItems_addr (rank : String) (emptyP : π → Bool) (body : S → Int → π → S × σ) :
    ∀ (f : Fib Int π) (s : S) (j0 : Nat) (r ty : String) (c pos : Int),
      Item.use r ty c pos ∈ (iterItems rank emptyP body s j0 f).2 →
      r = rank ∧ ty = "iter" ∧ ∃ (i : Nat) (p : π), pos = ((j0 + i : Nat) : Int) ∧ f[i]? = some (c, p) ∧ emptyP p = false := by
  intro f
  induction f with
  | nil => intro s j0 r ty c pos h; simp [iterItems] at h
  | cons e rest ih =>
    intro s j0 r ty c pos h
    obtain ⟨c0, p0⟩ := e
    simp only [iterItems] at h
    split at h
    · obtain ⟨h1, h2, i, p, e1, e2, e3⟩ := ih _ _ r ty c pos h
      exact ⟨h1, h2, i + 1, p, by rw [e1]; congr 1; omega, by simpa using e2, e3⟩
    · rename_i hne
      simp only [List.mem_cons, Item.use.injEq, reduceCtorEq, false_or] at h
      rcases h with ⟨rfl, rfl, rfl, rfl⟩ | h
      · exact ⟨rfl, rfl, 0, p0, by simp, by simp, by simpa using hne⟩
      · obtain ⟨h1, h2, i, p, e1, e2, e3⟩ := ih _ _ r ty c pos h
        exact ⟨h1, h2, i + 1, p, by rw [e1]; congr 1; omega, by simpa using e2, e3⟩

end

/-- the `i`-th position a position generator delivers (0 when it has run out) -/
def nthPos (l : List Nat) (i : Nat) : Nat := (l.drop i).headD 0

theorem nthPos_zero (l : List Nat) : nthPos l 0 = l.headD 0 := by simp [nthPos]

theorem nthPos_tail (l : List Nat) (i : Nat) : nthPos l.tail i = nthPos l (i + 1) := by
  cases l <;> simp [nthPos]

section
variable {α β : Type}

/-- a use with coordinate `c` and position `pos` names an element the operand presents, at the position
    its position generator delivers for it -/
def Names (pa : List Nat) (a : Fib Int α) (c pos : Int) : Prop :=
  ∃ (i : Nat) (p : α), pos = ((nthPos pa i : Nat) : Int) ∧ a[i]? = some (c, p)

theorem Names.head (pa : List Nat) (c : Int) (p : α) (rest : Fib Int α) :
    Names pa ((c, p) :: rest) c ((pa.headD 0 : Nat) : Int) :=
  ⟨0, p, by rw [nthPos_zero], rfl⟩

theorem Names.tail {pa : List Nat} {e : Int × α} {rest : Fib Int α} {c pos : Int}
    (h : Names pa.tail rest c pos) : Names pa (e :: rest) c pos := by
  obtain ⟨i, p, e1, e2⟩ := h
  exact ⟨i + 1, p, by rw [e1, nthPos_tail], by simpa using e2⟩

theorem mem_optUse {t : Bool} {rank ty0 : String} {c0 : Int} {n : Nat} {r ty : String} {c pos : Int}
    (h : Item.use r ty c pos ∈ optUse t rank ty0 c0 n) : r = rank ∧ ty = ty0 ∧ c = c0 ∧ pos = (n : Int) := by
  unfold optUse at h
  split at h
  · simpa using h
  · cases h

theorem andSteps_addr (rank tyA tyB : String) (ta tb : Bool)
    (pa pb : List Nat) (a : Fib Int α) (b : Fib Int β) :
    ∀ (r ty : String) (c pos : Int), Step.emit (.use r ty c pos) ∈ andSteps rank tyA tyB ta tb pa pb a b →
      r = rank ∧ ((ty = tyA ∧ Names pa a c pos) ∨ (ty = tyB ∧ Names pb b c pos)) := by
  -- the uses of one iteration name the heads; where a head is dropped, later uses shift by one
  fun_induction andSteps rank tyA tyB ta tb pa pb a b with
  | case1 => intro r ty c pos h; simp at h
  | case2 pa _ ca xa ra =>
    intro r ty c pos h
    simp only [List.mem_append, List.mem_map, List.mem_singleton, Step.emit.injEq, reduceCtorEq, or_false] at h
    obtain ⟨j, hj, rfl⟩ := h
    obtain ⟨rfl, rfl, rfl, rfl⟩ := mem_optUse hj
    exact ⟨rfl, Or.inl ⟨rfl, .head ..⟩⟩
  | case3 _ pb cb xb rb =>
    intro r ty c pos h
    simp only [List.mem_append, List.mem_map, List.mem_singleton, Step.emit.injEq, reduceCtorEq, or_false] at h
    obtain ⟨j, hj, rfl⟩ := h
    obtain ⟨rfl, rfl, rfl, rfl⟩ := mem_optUse hj
    exact ⟨rfl, Or.inr ⟨rfl, .head ..⟩⟩
  | case4 pa pb xa ra ca xb rb ih =>
    intro r ty c pos h
    simp only [List.mem_append, List.mem_map, List.mem_cons, Step.emit.injEq, reduceCtorEq, false_or] at h
    rcases h with ⟨j, hj | hj, rfl⟩ | h
    · obtain ⟨rfl, rfl, rfl, rfl⟩ := mem_optUse hj
      exact ⟨rfl, Or.inl ⟨rfl, .head ..⟩⟩
    · obtain ⟨rfl, rfl, rfl, rfl⟩ := mem_optUse hj
      exact ⟨rfl, Or.inr ⟨rfl, .head ..⟩⟩
    · exact (ih r ty c pos h).imp_right (Or.imp (And.imp_right .tail) (And.imp_right .tail))
  | case5 pa pb ca xa ra cb xb rb hne hlt ih =>
    intro r ty c pos h
    simp only [List.mem_append, List.mem_map, List.mem_cons, Step.emit.injEq, reduceCtorEq, false_or] at h
    rcases h with ⟨j, hj, rfl⟩ | h
    · obtain ⟨rfl, rfl, rfl, rfl⟩ := mem_optUse hj
      exact ⟨rfl, Or.inl ⟨rfl, .head ..⟩⟩
    · exact (ih r ty c pos h).imp_right (Or.imp (And.imp_right .tail) id)
  | case6 pa pb ca xa ra cb xb rb hne hlt ih =>
    intro r ty c pos h
    simp only [List.mem_append, List.mem_map, List.mem_cons, Step.emit.injEq, reduceCtorEq, false_or] at h
    rcases h with ⟨j, hj, rfl⟩ | h
    · obtain ⟨rfl, rfl, rfl, rfl⟩ := mem_optUse hj
      exact ⟨rfl, Or.inr ⟨rfl, .head ..⟩⟩
    · exact (ih r ty c pos h).imp_right (Or.imp id (And.imp_right .tail))

theorem lfSteps_addr (rankA rankB tyA tyB : String) (ta : Bool) (dfl : β) (b : Fib Int β) :
    ∀ (a : Fib Int α) (pa : List Nat) (r ty : String) (c pos : Int),
      Step.emit (.use r ty c pos) ∈ lfSteps rankA rankB tyA tyB ta dfl b pa a →
      (r = rankA ∧ ty = tyA ∧ Names pa a c pos) ∨
      (r = rankB ∧ ty = tyB ∧ pos = ((lowerBound b c : Nat) : Int)) := by
  intro a
  induction a with
  | nil => intro pa r ty c pos h; simp [lfSteps] at h
  | cons e rest ih =>
    intro pa r ty c pos h
    obtain ⟨c0, p0⟩ := e
    simp only [lfSteps, List.mem_append, List.mem_map, List.mem_cons, Step.emit.injEq, reduceCtorEq, false_or] at h
    rcases h with ⟨x, hx, rfl⟩ | h | h
    · obtain ⟨rfl, rfl, rfl, rfl⟩ := mem_optUse hx
      exact Or.inl ⟨rfl, rfl, .head ..⟩
    · simp only [Item.use.injEq] at h
      obtain ⟨rfl, rfl, rfl, rfl⟩ := h
      exact Or.inr ⟨rfl, rfl, rfl⟩
    · exact (ih pa.tail r ty c pos h).imp (And.imp_right (And.imp_right .tail)) id

theorem projLoop_addr (srcRank ty : String) (t : Bool) (off : Int) (lo hi : Option Int) :
    ∀ (a : Fib Int α) (pa : List Nat) (s : Nat) (r ty' : String) (c pos : Int),
      Step.emit (.useSaved s r ty' c pos) ∈ projLoop srcRank ty t off lo hi pa a →
      s = 1 ∧ r = srcRank ∧ ty' = ty ∧ Names pa a c pos ∧
        inLo lo (c + off) = true ∧ aboveHi hi (c + off) = false := by
  intro a
  induction a with
  | nil => intro pa s r ty' c pos h; simp [projLoop] at h
  | cons e rest ih =>
    intro pa s r ty' c pos hm
    obtain ⟨oc, p⟩ := e
    have step : Step.emit (Item.useSaved s r ty' c pos) ∈ projLoop srcRank ty t off lo hi pa.tail rest →
        s = 1 ∧ r = srcRank ∧ ty' = ty ∧ Names pa ((oc, p) :: rest) c pos ∧
          inLo lo (c + off) = true ∧ aboveHi hi (c + off) = false := fun hm' =>
      (ih pa.tail s r ty' c pos hm').imp_right (And.imp_right (And.imp_right (And.imp_left .tail)))
    by_cases h1 : aboveHi hi (oc + off) = true
    · simp [projLoop, h1] at hm
    · by_cases h2 : inLo lo (oc + off) = true
      · simp only [projLoop, h1, h2, if_true, Bool.false_eq_true, if_false, List.mem_cons, reduceCtorEq,
          List.mem_append, false_or] at hm
        rcases hm with hm | hm
        · cases t with
          | false => simp at hm
          | true =>
            simp only [if_true, List.mem_cons, Step.emit.injEq, Item.useSaved.injEq, reduceCtorEq,
              List.not_mem_nil, or_false] at hm
            obtain ⟨rfl, rfl, rfl, rfl, rfl⟩ := hm
            exact ⟨rfl, rfl, rfl, .head .., h2, by simpa using h1⟩
        · exact step hm
      · simp only [projLoop, h1, h2, if_false, Bool.false_eq_true] at hm
        exact step hm

end

section
variable {σ S β : Type}

/-- the elements a step stream hands to its consumer -/
def yieldsOf : List (Step β) → List (Int × β)
  | [] => []
  | .emit _ :: rest => yieldsOf rest
  | .yield c p :: rest => (c, p) :: yieldsOf rest

/-- a source's call under another key is not the use in question -/
theorem use_ne_lift {i0 : Item PEmpty} {rank ty : String} (h : itemKey i0 ≠ some (rank, ty)) (c pos : Int) :
    Item.use rank ty c pos ≠ (i0.lift : Item σ) := by
  intro e
  rw [← itemKey_lift (σ := σ), ← e] at h
  exact h rfl

theorem lazyItems_addr (rank : String) (body : S → Int → β → S × σ) :
    ∀ (steps : List (Step β)) (s : S) (j0 : Nat) (c pos : Int),
      (∀ i, Step.emit i ∈ steps → itemKey i ≠ some (rank, "iter")) →
      Item.use rank "iter" c pos ∈ (lazyItems rank body s j0 steps).2 →
      ∃ (i : Nat) (p : β), pos = ((j0 + i : Nat) : Int) ∧ (yieldsOf steps)[i]? = some (c, p) := by
  intro steps
  induction steps with
  | nil => intro s j0 c pos _ h; simp [lazyItems] at h
  | cons x rest ih =>
    intro s j0 c pos hk h
    have hk' : ∀ i, Step.emit i ∈ rest → itemKey i ≠ some (rank, "iter") := fun i hi => hk i (by simp [hi])
    cases x with
    | emit i0 =>
      rcases List.mem_cons.1 h with h | h
      · exact absurd h (use_ne_lift (hk i0 (List.mem_cons_self ..)) c pos)
      · exact ih s j0 c pos hk' h
    | yield c0 p0 =>
      simp only [lazyItems, List.mem_cons, Item.use.injEq, reduceCtorEq, false_or, true_and] at h
      rcases h with ⟨rfl, rfl⟩ | h
      · exact ⟨0, p0, by simp, by simp [yieldsOf]⟩
      · obtain ⟨i, p, e1, e2⟩ := ih _ (j0 + 1) c pos hk' h
        exact ⟨i + 1, p, by rw [e1]; congr 1; omega, by simpa [yieldsOf] using e2⟩

end

/-- `iterPositions()` and iteration agree: the `i`-th position delivered is the index, in the fiber as
    stored, of the `i`-th element presented -/
theorem filter_zipIdx_storage {α : Type} (l : List α) (q : α → Bool) (i : Nat) (e : α)
    (h : (l.filter q)[i]? = some e) :
    l[nthPos ((l.zipIdx.filter (fun x => q x.1)).map (·.2)) i]? = some e ∧ q e = true := by
  have hf : l.filter q = (l.zipIdx.filter (fun x => q x.1)).map (·.1) := by
    have : l.filter q = (l.zipIdx.map (·.1)).filter q := by rw [List.zipIdx_map_fst]
    rw [this, List.filter_map]; rfl
  rw [hf, List.getElem?_map] at h
  cases hF : (l.zipIdx.filter (fun x => q x.1))[i]? with
  | none => rw [hF] at h; simp at h
  | some x =>
    rw [hF] at h
    simp only [Option.map_some, Option.some.injEq] at h
    have hmem : x ∈ l.zipIdx.filter (fun x => q x.1) := List.mem_of_getElem? hF
    rw [List.mem_filter] at hmem
    have hidx : nthPos ((l.zipIdx.filter (fun x => q x.1)).map (·.2)) i = x.2 := by
      unfold nthPos
      rw [← List.map_drop]
      have : (l.zipIdx.filter (fun x => q x.1)).drop i = x :: (l.zipIdx.filter (fun x => q x.1)).drop (i + 1) := by
        rw [List.drop_eq_getElem_cons (List.getElem?_eq_some_iff.1 hF).1]
        rw [(List.getElem?_eq_some_iff.1 hF).2]
      rw [this]; simp
    rw [hidx, ← h]
    exact ⟨List.mem_zipIdx_iff_getElem?.1 hmem.1, hmem.2⟩

theorem present_storage (dflt : Int) (t : AnyTree) (i : Nat) (e : Int × AnyTree)
    (h : (presentAny dflt t)[i]? = some e) :
    (children t)[nthPos (presentIdx dflt t) i]? = some e ∧ anyEmpty dflt e.2 = false := by
  have := filter_zipIdx_storage (children t) (fun e => !anyEmpty dflt e.2) i e h
  exact ⟨this.1, by simpa using this.2⟩

theorem presentAny_eq_children (dflt : Int) (t : AnyTree)
    (h : ∀ e ∈ children t, anyEmpty dflt e.2 = false) : presentAny dflt t = children t := by
  unfold presentAny
  rw [List.filter_eq_self]
  intro e he
  simp [h e he]

/-- for an operand as stored, the position generator delivers storage indices: a named element is a
    stored, non-empty one and the position is its index -/
theorem Names.storage {dflt : Int} {t : AnyTree} {c pos : Int}
    (h : Names (presentIdx dflt t) (presentAny dflt t) c pos) :
    ∃ (n : Nat) (p : AnyTree), pos = (n : Int) ∧ (children t)[n]? = some (c, p) ∧ anyEmpty dflt p = false := by
  obtain ⟨i, p, e1, e2⟩ := h
  obtain ⟨s1, s2⟩ := present_storage dflt t i (c, p) e2
  exact ⟨_, p, e1, s1, s2⟩

section
variable {σ π β : Type}
variable (cfg : PopCfg) (mk : π) (rm : Bool → π → Bool) (emptyP : π → Bool) (body : Int → π → β → π × σ)

/-- the position `populate_i` reports for the `i`-th element offered from now on: what the source's
    position generator delivers (a concrete source fiber), or the running count (a lazy source) -/
def srcPosAt (pst : PopSt π) (i : Nat) : Nat :=
  match pst.bposs with
  | some l => nthPos l i
  | none => pst.bpos + i

/-- after an offered element the positions still to be reported are those from the next one on -/
theorem srcPos_popYield (pst : PopSt π) (c0 : Int) (p0 : β) (ty : String) (i : Nat) :
    (if ty = "iter" then (popYield cfg mk rm emptyP body pst c0 p0).1.bpos + i
      else srcPosAt (popYield cfg mk rm emptyP body pst c0 p0).1 i) =
    (if ty = "iter" then pst.bpos + (i + 1) else srcPosAt pst (i + 1)) := by
  obtain ⟨hb, hbs⟩ := popYield_pos cfg mk rm emptyP body pst c0 p0
  split
  · rw [hb]; omega
  · simp only [srcPosAt, hb, hbs]
    cases pst.bposs with
    | none => simp; omega
    | some l => simp [nthPos_tail]

theorem moveItems_no_use (pst : PopSt π) (r ty : String) (c pos : Int) :
    Item.use r ty c pos ∉ moveItems (σ := σ) cfg emptyP pst := by
  intro h
  unfold moveItems at h
  split at h
  · rcases moveLoop_mem' cfg _ _ _ _ _ h with h | ⟨_, _, h⟩ | ⟨_, _, h⟩ <;> cases h
  · cases h

/-- one offered element: the `populate_i` use and the consumer's `iter` use carry the offered coordinate
    and the position current for it; everything else the element makes the iterators call has another key -/
theorem popYield_use (ok : PopTypesOK cfg) (pst : PopSt π) (c0 : Int) (p0 : β) {ty : String} {c pos : Int}
    (hty : ty = cfg.srcTy ∨ ty = "iter")
    (h : Item.use cfg.rank ty c pos ∈ (popYield cfg mk rm emptyP body pst c0 p0).2) :
    c = c0 ∧ pos = (((if ty = "iter" then pst.bpos + 0 else srcPosAt pst 0) : Nat) : Int) := by
  have hread : ty ≠ cfg.readTy := fun e => hty.elim (fun e' => ok.rs (e ▸ e')) (fun e' => ok.ri (e ▸ e'))
  obtain ⟨ins, new, removed, cur, rp, wp, e⟩ := popYield_items cfg mk rm emptyP body pst c0 p0
  rw [e] at h
  simp only [List.mem_append, List.mem_cons] at h
  rcases h with h | h | h | h | h | h | h
  · -- popPre: the source use, or a read of the inserting search
    rcases popPre_mem cfg emptyP h with e | e | ⟨c', pos', e⟩
    · cases e
    · cases e
      have hni : cfg.srcTy ≠ "iter" := ok.si
      refine ⟨rfl, ?_⟩
      simp only [hni, if_false, srcPosAt]
      cases pst.bposs <;> simp [nthPos_zero]
    · cases e; exact absurd rfl hread
  · cases h
  · rcases popRd_cases (σ := σ) cfg new c0 rp with e1 | e1 <;> rw [e1] at h
    · cases h
    · cases List.mem_singleton.1 h; exact absurd rfl hread
  · cases h; exact ⟨rfl, by simp⟩
  · cases h
  · cases h
  · rcases popPost_cases (σ := σ) cfg removed c0 wp with e1 | e1 <;> rw [e1] at h <;> simp at h

/-- `lshift_iterator`, source side: the `populate_i` and `iter` uses carry the `i`-th offered coordinate
    and the position of the `i`-th offered element, for some `i` -/
theorem popItems_src_addr (ok : PopTypesOK cfg) :
    ∀ (steps : List (Step β)) (pst : PopSt π) (ty : String) (c pos : Int),
      (ty = cfg.srcTy ∨ ty = "iter") →
      (∀ i, Step.emit i ∈ steps → itemKey i ≠ some (cfg.rank, ty)) →
      Item.use cfg.rank ty c pos ∈ (popItems cfg mk rm emptyP body pst steps).2 →
      ∃ (i : Nat) (p : β), pos = (((if ty = "iter" then pst.bpos + i else srcPosAt pst i) : Nat) : Int) ∧
        (yieldsOf steps)[i]? = some (c, p) := by
  intro steps
  induction steps with
  | nil => intro pst ty c pos _ _ h; exact absurd h (moveItems_no_use cfg emptyP pst _ _ _ _)
  | cons x rest ih =>
    intro pst ty c pos hty hk h
    have hk' : ∀ i, Step.emit i ∈ rest → itemKey i ≠ some (cfg.rank, ty) :=
      fun i hi => hk i (List.mem_cons_of_mem _ hi)
    cases x with
    | emit i0 =>
      rcases List.mem_cons.1 h with h | h
      · exact absurd h (use_ne_lift (hk i0 (List.mem_cons_self ..)) c pos)
      · exact ih pst ty c pos hty hk' h
    | yield c0 p0 =>
      rcases List.mem_append.1 h with h | h
      · obtain ⟨rfl, e⟩ := popYield_use cfg mk rm emptyP body ok pst c0 p0 hty h
        exact ⟨0, p0, e, rfl⟩
      · obtain ⟨i, p, e1, e2⟩ := ih _ ty c pos hty hk' h
        exact ⟨i + 1, p, by rw [e1, srcPos_popYield], e2⟩

end

section
variable {α β : Type}

theorem yieldsOf_append (a b : List (Step β)) : yieldsOf (a ++ b) = yieldsOf a ++ yieldsOf b := by
  induction a with
  | nil => rfl
  | cons x rest ih => cases x <;> simp [yieldsOf, ih]

theorem yieldsOf_emits (l : List (Item PEmpty)) : yieldsOf (l.map (Step.emit (β := β))) = [] := by
  induction l with
  | nil => rfl
  | cons x rest ih => simpa [yieldsOf] using ih

/-- `and_iterator` yields exactly the two-finger intersection of C04 -/
theorem andSteps_yields (rank tyA tyB : String) (ta tb : Bool) (ap bp : List Nat) (a : Fib Int α) (b : Fib Int β) :
    yieldsOf (andSteps rank tyA tyB ta tb ap bp a b) = andMerge a b := by
  fun_induction andSteps rank tyA tyB ta tb ap bp a b with
  | case1 => simp [yieldsOf, andMerge]
  | case2 => simp [yieldsOf_append, yieldsOf_emits, yieldsOf, andMerge]
  | case3 => simp [yieldsOf_append, yieldsOf_emits, yieldsOf, andMerge]
  | case4 ap bp pa ra ca pb rb ih =>
    rw [andMerge]; simp [yieldsOf_append, yieldsOf_emits, yieldsOf, ih]
  | case5 ap bp ca pa ra cb pb rb hne hlt ih =>
    rw [andMerge]; simp [yieldsOf_append, yieldsOf_emits, yieldsOf, ih, hne, hlt]
  | case6 ap bp ca pa ra cb pb rb hne hlt ih =>
    rw [andMerge]; simp [yieldsOf_append, yieldsOf_emits, yieldsOf, ih, hne, hlt]

theorem lfSteps_yields (rankA rankB tyA tyB : String) (ta : Bool) (dfl : β) (b : Fib Int β) :
    ∀ (a : Fib Int α) (i : List Nat),
      yieldsOf (lfSteps rankA rankB tyA tyB ta dfl b i a) = a.map (fun e => (e.1, (e.2, (posLookup b e.1).getD dfl))) := by
  intro a
  induction a with
  | nil => intro i; rfl
  | cons e rest ih =>
    intro i
    obtain ⟨c, p⟩ := e
    simp [lfSteps, yieldsOf_append, yieldsOf_emits, yieldsOf, ih]

theorem projLoop_yields (srcRank ty : String) (t : Bool) (off : Int) (lo hi : Option Int) :
    ∀ (a : Fib Int α) (j : List Nat),
      yieldsOf (projLoop srcRank ty t off lo hi j a) =
        ((a.takeWhile (fun e => !aboveHi hi (e.1 + off))).filter (fun e => inLo lo (e.1 + off))).map
          (fun e => (e.1 + off, e.2)) := by
  intro a
  induction a with
  | nil => intro j; rfl
  | cons e rest ih =>
    intro j
    obtain ⟨oc, p⟩ := e
    by_cases h1 : aboveHi hi (oc + off) = true
    · simp [projLoop, h1, yieldsOf]
    · by_cases h2 : inLo lo (oc + off) = true
      · cases t <;> simp [projLoop, h1, h2, yieldsOf, ih]
      · simp [projLoop, h1, h2, ih]

end

end Ft.C16
