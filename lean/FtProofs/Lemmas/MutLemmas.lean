/-
  C01: each checked mutator (`append`, `extend`, `__setitem__`) either writes, its order check passed, or changes
  nothing; `getPositionRef` and affine `updateCoords` keep the order; `atPath` / `locate` one step along a path,
  and what `atPath` inherits from its transformer.
-/
import FtProofs.Lemmas.PointLemmas
import FtModel.Mutate
import FtModel.Ranks
namespace Ft
open StrictTotal

section
variable {κ π : Type} [LT κ] [DecidableRel (α := κ) (· < ·)]

theorem appendF_cases (f : Fib κ π) (c : κ) (v : π) :
    (appendF f c v = (f ++ [(c, v)], .ok) ∧ ∀ e, f.getLast? = some e → e.1 < c) ∨
      appendF f c v = (f, .rejectedOrder) := by
  unfold appendF
  cases f.getLast? with
  | none => exact Or.inl ⟨rfl, fun _ h => nomatch h⟩
  | some e =>
    by_cases h : e.1 < c
    · exact Or.inl ⟨if_pos h, fun _ he => Option.some.inj he ▸ h⟩
    · exact Or.inr (if_neg h)

theorem extendF_cases (b : Bool) (f g : Fib κ π) :
    (extendF b f g = (f ++ g, .ok) ∧ ∀ e x, f.getLast? = some e → g.head? = some x → e.1 < x.1) ∨
      (extendF b f g).1 = f := by
  unfold extendF
  cases b with
  | true => exact Or.inr rfl
  | false =>
    cases f.getLast? with
    | none => exact Or.inl ⟨rfl, fun _ _ h => nomatch h⟩
    | some e =>
      cases g.head? with
      | none => exact Or.inl ⟨rfl, fun _ _ _ h => nomatch h⟩
      | some x =>
        by_cases h : e.1 < x.1
        · exact Or.inl ⟨if_pos h, fun _ _ he hx => Option.some.inj he ▸ Option.some.inj hx ▸ h⟩
        · exact Or.inr (congrArg Prod.fst (if_neg h))

theorem setitemF_cases (f : Fib κ π) (pos : Nat) (c : Option κ) (v : Option π) :
    (∃ old, f[pos]? = some old ∧ leftOk f pos c = true ∧ rightOk f pos c = true ∧
        setitemF f pos c v = (f.set pos (c.getD old.1, v.getD old.2), .ok)) ∨
      (setitemF f pos c v).1 = f := by
  unfold setitemF
  cases hp : f[pos]? with
  | none => exact Or.inr rfl
  | some old =>
    by_cases hok : (leftOk f pos c && rightOk f pos c) = true
    · exact Or.inl ⟨old, rfl, (Bool.and_eq_true _ _ ▸ hok).1, (Bool.and_eq_true _ _ ▸ hok).2, if_pos hok⟩
    · exact Or.inr (congrArg Prod.fst (if_neg hok))

theorem appendF_rejected (f : Fib κ π) (c : κ) (v : π) (h : (appendF f c v).2 ≠ .ok) : (appendF f c v).1 = f := by
  rcases appendF_cases f c v with ⟨h', _⟩ | h'
  · rw [h'] at h; exact absurd rfl h
  · rw [h']

theorem extendF_rejected (b : Bool) (f g : Fib κ π) (h : (extendF b f g).2 ≠ .ok) : (extendF b f g).1 = f := by
  rcases extendF_cases b f g with ⟨h', _⟩ | h'
  · rw [h'] at h; exact absurd rfl h
  · exact h'

theorem setitemF_rejected (f : Fib κ π) (pos : Nat) (c : Option κ) (v : Option π)
    (h : (setitemF f pos c v).2 ≠ .ok) : (setitemF f pos c v).1 = f := by
  rcases setitemF_cases f pos c v with ⟨_, _, _, _, h'⟩ | h'
  · rw [h'] at h; exact absurd rfl h
  · exact h'

end

section
variable {κ ν : Type} [DecidableEq κ]

theorem atPath_nil (F : (d : Nat) → Tree κ ν (d + 1) → Tree κ ν (d + 1) × Outcome) (d : Nat) (f : Tree κ ν (d + 1)) :
    atPath F d f [] = F d f := by
  cases d <;> rfl

theorem locate_nil (d : Nat) (f : Tree κ ν (d + 1)) : locate d f [] = some ⟨d, f⟩ := by
  cases d <;> rfl

theorem atPath_cons_none (F : (d : Nat) → Tree κ ν (d + 1) → Tree κ ν (d + 1) × Outcome) {d : Nat}
    {f : List (κ × Tree κ ν (d + 1))} {c : κ} (hl : lookup f c = none) (cs : List κ) :
    atPath F (d + 1) f (c :: cs) = (f, .badPath) := by
  simp only [atPath, hl]; rfl

theorem atPath_cons_some (F : (d : Nat) → Tree κ ν (d + 1) → Tree κ ν (d + 1) × Outcome) {d : Nat}
    {f : List (κ × Tree κ ν (d + 1))} {c : κ} {s : Tree κ ν (d + 1)} (hl : lookup f c = some s) (cs : List κ) :
    atPath F (d + 1) f (c :: cs) =
      (f.map (fun e => if e.1 = c then (e.1, (atPath F d s cs).1) else e), (atPath F d s cs).2) := by
  simp only [atPath, hl]; rfl

theorem locate_cons_none {d : Nat} {f : List (κ × Tree κ ν (d + 1))} {c : κ} (hl : lookup f c = none)
    (cs : List κ) : locate (d + 1) f (c :: cs) = none := by
  simp only [locate, hl]

theorem locate_cons_some {d : Nat} {f : List (κ × Tree κ ν (d + 1))} {c : κ} {s : Tree κ ν (d + 1)}
    (hl : lookup f c = some s) (cs : List κ) : locate (d + 1) f (c :: cs) = locate d s cs := by
  simp only [locate, hl]

theorem locate_depth : ∀ (d : Nat) (t : Tree κ ν (d + 1)) (path : List κ) (d' : Nat) (s : Tree κ ν (d' + 1)),
    locate d t path = some ⟨d', s⟩ → d = d' + path.length := by
  intro d
  induction d with
  | zero =>
    intro t path d' s hl
    cases path with
    | nil => cases hl; rfl
    | cons _ _ => cases hl
  | succ d ih =>
    intro t path d' s hl
    cases path with
    | nil => cases hl; rfl
    | cons c cs =>
      cases hlk : lookup (show List (κ × Tree κ ν (d + 1)) from t) c with
      | none => rw [locate_cons_none hlk] at hl; cases hl
      | some s0 =>
        rw [locate_cons_some hlk] at hl
        rw [ih s0 cs d' s hl]; rfl

end

section
variable {κ π : Type} [LT κ] [DecidableRel (α := κ) (· < ·)] [DecidableEq κ] [StrictTotal κ]

theorem appendF_sorted (f : Fib κ π) (c : κ) (v : π) (hs : Sorted f) : Sorted (appendF f c v).1 := by
  rcases appendF_cases f c v with ⟨h, hlt⟩ | h
  · rw [h]
    exact sorted_append_of_last_head hs (List.pairwise_singleton _ _)
      (fun e x he hx => Option.some.inj hx ▸ hlt e he)
  · rw [h]
    exact hs

theorem extendF_sorted (b : Bool) (f g : Fib κ π) (hf : Sorted f) (hg : Sorted g) : Sorted (extendF b f g).1 := by
  rcases extendF_cases b f g with ⟨h, hlt⟩ | h
  · rw [h]
    exact sorted_append_of_last_head hf hg hlt
  · rw [h]
    exact hf

/-- the accepted case of `__setitem__` with a new coordinate: it lies between its neighbours' -/
theorem set_sorted {f : Fib κ π} {pos : Nat} {old : κ × π} (hs : Sorted f) (hp : f[pos]? = some old)
    (c : κ) (p : π) (hleft : leftOk f pos (some c) = true) (hright : rightOk f pos (some c) = true) :
    Sorted (f.set pos (c, p)) := by
  obtain ⟨A, B, rfl, rfl⟩ := split_at f pos old hp
  obtain ⟨hsA, hsB, _⟩ := sorted_append_iff.1 hs
  have hA : ∀ x ∈ A, x.1 < c := by
    cases hl : A.getLast? with
    | none => rw [List.getLast?_eq_none_iff.1 hl]; exact fun _ h => nomatch h
    | some l =>
      refine all_lt_of_last_lt hsA hl ?_
      have hpos : 0 < A.length := by
        obtain ⟨ys, rfl⟩ := List.getLast?_eq_some_iff.1 hl
        rw [List.length_append]; exact Nat.succ_pos _
      simp only [leftOk, beq_eq_false_iff_ne.2 (Nat.ne_of_gt hpos), Bool.false_or,
        List.getElem?_append_left (Nat.sub_lt hpos Nat.one_pos), ← List.getLast?_eq_getElem?, hl] at hleft
      exact of_decide_eq_true hleft
  have hB : ∀ y ∈ B, c < y.1 := by
    cases B with
    | nil => exact fun _ h => nomatch h
    | cons b0 br =>
      simp only [rightOk, List.getElem?_append_right (Nat.le_add_right _ 1), Nat.add_sub_cancel_left,
        List.getElem?_cons_succ, List.getElem?_cons_zero] at hright
      have hb0 := of_decide_eq_true hright
      exact fun y hy => (List.mem_cons.1 hy).elim (fun h => h ▸ hb0) (fun h => trans hb0 (hsB.tail.head_lt y h))
  rw [List.set_append_right _ _ (Nat.le_refl _), Nat.sub_self, List.set_cons_zero]
  exact sorted_append_iff.2 ⟨hsA, sorted_cons.2 ⟨hB, hsB.tail⟩,
    fun x hx y hy => (List.mem_cons.1 hy).elim (fun h => h ▸ hA x hx) (fun h => trans (hA x hx) (hB y h))⟩

theorem set_payload_sorted {f : Fib κ π} {pos : Nat} {old : κ × π} (hs : Sorted f) (hp : f[pos]? = some old)
    (p : π) : Sorted (f.set pos (old.1, p)) := by
  obtain ⟨A, B, rfl, rfl⟩ := split_at f pos old hp
  obtain ⟨hsA, hsB, hlt⟩ := sorted_append_iff.1 hs
  rw [List.set_append_right _ _ (Nat.le_refl _), Nat.sub_self, List.set_cons_zero]
  exact sorted_append_iff.2 ⟨hsA, sorted_cons.2 ⟨hsB.head_lt, hsB.tail⟩,
    fun x hx y hy => (List.mem_cons.1 hy).elim (fun h => h ▸ hlt x hx old (List.mem_cons_self ..))
      (fun h => hlt x hx y (List.mem_cons_of_mem _ h))⟩

theorem setitemF_sorted (f : Fib κ π) (pos : Nat) (c : Option κ) (v : Option π) (hs : Sorted f) :
    Sorted (setitemF f pos c v).1 := by
  rcases setitemF_cases f pos c v with ⟨old, hp, hl, hr, h⟩ | h
  · rw [h]
    cases c with
    | none => exact set_payload_sorted hs hp _
    | some c => exact set_sorted hs hp c _ hl hr
  · rw [h]
    exact hs

theorem posrefF_sorted (mk : π) (f : Fib κ π) (c : κ) (hs : Sorted f) : Sorted (posrefF mk f c) := by
  unfold posrefF insertIfMissing
  rw [posLookup_eq_lookup hs]
  cases hl : lookup f c with
  | some _ => exact hs
  | none => exact insertAt_sorted hs hl mk

end

section
variable {π : Type}

theorem updCoordsF_sorted (k m : Int) (hk : k ≠ 0) (f : Fib Int π) (hs : Sorted f) :
    Sorted (updCoordsF k m f) := by
  unfold updCoordsF Sorted at *
  by_cases hneg : k < 0
  · simp only [hneg, if_true]
    rw [List.pairwise_reverse, List.pairwise_map]
    exact hs.imp (fun {a b} hab => by
      show k * b.1 + m < k * a.1 + m
      have : k * b.1 < k * a.1 := Int.mul_lt_mul_of_neg_left hab hneg
      omega)
  · simp only [hneg, if_false]
    rw [List.pairwise_map]
    have hpos : 0 < k := by omega
    exact hs.imp (fun {a b} hab => by
      show k * a.1 + m < k * b.1 + m
      have : k * a.1 < k * b.1 := Int.mul_lt_mul_of_pos_left hab hpos
      omega)

theorem updCoordsF_mem (k m : Int) (f : Fib Int π) :
    ∀ x ∈ updCoordsF k m f, ∃ e ∈ f, x.2 = e.2 := by
  unfold updCoordsF
  intro x hx
  by_cases hneg : k < 0
  · simp only [hneg, if_true, List.mem_reverse, List.mem_map] at hx
    obtain ⟨e, he, rfl⟩ := hx; exact ⟨e, he, rfl⟩
  · simp only [hneg, if_false, List.mem_map] at hx
    obtain ⟨e, he, rfl⟩ := hx; exact ⟨e, he, rfl⟩

theorem updCoordsF_wf {ν : Type} (k m : Int) (hk : k ≠ 0) {d : Nat} {f : List (Int × Tree Int ν d)}
    (h : WF (d + 1) f) : WF (d + 1) (show Tree Int ν (d + 1) from updCoordsF k m f) := by
  refine ⟨updCoordsF_sorted k m hk f h.sorted, fun e he => ?_⟩
  obtain ⟨x, hx, hxe⟩ := updCoordsF_mem k m f e he
  exact hxe ▸ h.sub x hx

/-- the writes of dense reference iteration at a leaf fiber change payloads only -/
theorem foldl_writeLeaf_wf {ν : Type} (cs : List Int) (w : List (Int × ν)) : ∀ (t : Tree Int ν 1), WF 1 t →
    WF 1 (w.foldl (fun t cv => if cs.contains cv.1 then writeLeaf t cv.1 cv.2 else t) t) := by
  induction w with
  | nil => exact fun _ ht => ht
  | cons cv r ih =>
    intro t ht
    refine ih _ ?_
    show WF 1 (if cs.contains cv.1 then writeLeaf t cv.1 cv.2 else t)
    split
    · exact wf_map_key ht cv.1 (fun _ => cv.2) (fun _ _ => trivial)
    · exact ht

end
end Ft

namespace Ft
open StrictTotal
section
variable {κ ν : Type} [LT κ] [DecidableRel (α := κ) (· < ·)] [DecidableEq κ] [StrictTotal κ]

theorem posrefF_wf (dflt : ν) {d : Nat} {f : List (κ × Tree κ ν d)} (h : WF (d + 1) f) (c : κ) :
    WF (d + 1) (show Tree κ ν (d + 1) from posrefF (defaultTree dflt d) f c) := by
  unfold posrefF insertIfMissing
  rw [posLookup_eq_lookup h.sorted]
  cases hl : lookup f c with
  | some _ => exact h
  | none => exact wf_insertAt h hl (wf_defaultTree dflt d)

theorem appendF_wf {d : Nat} {f : List (κ × Tree κ ν d)} (h : WF (d + 1) f) (c : κ) {x : Tree κ ν d} (hx : WF d x) :
    WF (d + 1) (show Tree κ ν (d + 1) from (appendF f c x).1) := by
  refine ⟨appendF_sorted f c x h.sorted, fun e hm => ?_⟩
  rcases appendF_cases f c x with ⟨he, _⟩ | he
  · rw [he] at hm
    exact (List.mem_append.1 hm).elim (h.sub e) (fun h1 => List.mem_singleton.1 h1 ▸ hx)
  · rw [he] at hm
    exact h.sub e hm

theorem extendF_wf {d : Nat} {f g : List (κ × Tree κ ν d)} (h : WF (d + 1) f) (hg : WF (d + 1) g) (b : Bool) :
    WF (d + 1) (show Tree κ ν (d + 1) from (extendF b f g).1) := by
  refine ⟨extendF_sorted b f g h.sorted hg.sorted, fun e hm => ?_⟩
  rcases extendF_cases b f g with ⟨he, _⟩ | he
  · rw [he] at hm
    exact (List.mem_append.1 hm).elim (h.sub e) (hg.sub e)
  · rw [he] at hm
    exact h.sub e hm

theorem setitemF_wf {d : Nat} {f : List (κ × Tree κ ν d)} (h : WF (d + 1) f) (pos : Nat) (c : Option κ)
    {v : Option (Tree κ ν d)} (hv : ∀ x, v = some x → WF d x) :
    WF (d + 1) (show Tree κ ν (d + 1) from (setitemF f pos c v).1) := by
  refine ⟨setitemF_sorted f pos c v h.sorted, fun e hm => ?_⟩
  rcases setitemF_cases f pos c v with ⟨old, hp, _, _, he⟩ | he
  · rw [he] at hm
    rcases List.mem_or_eq_of_mem_set hm with h1 | rfl
    · exact h.sub e h1
    · cases v with
      | none => exact h.sub old (List.mem_of_getElem? hp)
      | some x => exact hv x rfl
  · rw [he] at hm
    exact h.sub e hm

theorem map_key_id {f : Fib κ (Tree κ ν d)} {c : κ} {s : Tree κ ν d} (hs : Sorted f)
    (hl : lookup f c = some s) : f.map (fun e => if e.1 = c then (e.1, s) else e) = f := by
  obtain ⟨A, B, rfl, hA, hB⟩ := exists_split_of_lookup hs hl
  exact map_key_split hA hB s (fun _ => s)

/-- a transformer that keeps every fiber well-formed keeps the tree well-formed wherever it is applied -/
theorem atPath_wf (F : (d : Nat) → Tree κ ν (d + 1) → Tree κ ν (d + 1) × Outcome)
    (hF : ∀ d f, WF (d + 1) f → WF (d + 1) (F d f).1) :
    ∀ (d : Nat) (t : Tree κ ν (d + 1)) (path : List κ), WF (d + 1) t → WF (d + 1) (atPath F d t path).1 := by
  intro d
  induction d with
  | zero =>
    intro t path h
    cases path with
    | nil => exact hF 0 t h
    | cons _ _ => exact h
  | succ d ih =>
    intro t path h
    cases path with
    | nil => exact hF _ t h
    | cons c cs =>
      cases hl : lookup (show List (κ × Tree κ ν (d + 1)) from t) c with
      | none => rw [atPath_cons_none F hl]; exact h
      | some s =>
        rw [atPath_cons_some F hl]
        exact wf_map_key h c _ (fun _ _ => ih s cs (h.sub _ (mem_of_lookup_eq_some hl)))

/-- a transformer whose rejections change nothing changes nothing when it is rejected at the end of a path -/
theorem atPath_rejected (F : (d : Nat) → Tree κ ν (d + 1) → Tree κ ν (d + 1) × Outcome)
    (hF : ∀ d f, (F d f).2 ≠ .ok → (F d f).1 = f) :
    ∀ (d : Nat) (t : Tree κ ν (d + 1)) (path : List κ), WF (d + 1) t →
      (atPath F d t path).2 ≠ .ok → (atPath F d t path).1 = t := by
  intro d
  induction d with
  | zero =>
    intro t path _ hr
    cases path with
    | nil => exact hF 0 t hr
    | cons _ _ => rfl
  | succ d ih =>
    intro t path h hr
    cases path with
    | nil => exact hF _ t hr
    | cons c cs =>
      cases hl : lookup (show List (κ × Tree κ ν (d + 1)) from t) c with
      | none => rw [atPath_cons_none F hl]
      | some s =>
        rw [atPath_cons_some F hl] at hr ⊢
        rw [ih s cs (h.sub _ (mem_of_lookup_eq_some hl)) hr]
        exact map_key_id h.sorted hl

end
end Ft
