/-
  C14 — rank ids, shapes, defaults, formats and active ranges follow the data.
  Property theorems only; helper lemmas live in FtProofs/Lemmas/MetaLemmas.lean.
-/
import FtProofs.Lemmas.MetaLemmas
import FtProofs.Lemmas.SplitSpec
set_option linter.unusedVariables false
namespace Ft
open Ft.C14

/-- **split**: the carry-over block of `_splitGeneric` (formats looked up by rank id) yields the
    documented Meta: X → X.1, X.0; the authoritative shape with X's entry duplicated; default and
    mutability kept; both halves inherit X's format, every other rank keeps its own. -/
theorem split_meta (m : Meta) (k : Nat) (s : String) (hwf : m.wfB = true)
    (hk : m.ids[k]? = some (.one s))
    (h1 : RId.one (s ++ ".1") ∉ m.ids) (h0 : RId.one (s ++ ".0") ∉ m.ids) :
    mSplit k m = sSplit k m := by
  obtain ⟨hl, hs, hn⟩ := (metaWfB_iff m).1 hwf
  unfold mSplit sSplit
  rw [hk]
  simp only [Option.some.injEq, Meta.mk.injEq, true_and, and_true]
  have hx : m.fmts[k]? = some (m.getFmt (.one s)) := lookD_getElem? Fmt.C m.ids m.fmts hn hl k _ hk
  have hne : RId.one (s ++ ".0") ≠ RId.one (s ++ ".1") := by
    intro h; injection h with h; simp at h
  unfold splitIds dupAt
  refine (map_splice Fmt.C m.ids m.fmts hn hl _ (fun r hr => ?_) k (k + 1) _).trans ?_
  · have a1 : r ≠ RId.one (s ++ ".1") := fun e => h1 (e ▸ hr)
    have a0 : r ≠ RId.one (s ++ ".0") := fun e => h0 (e ▸ hr)
    exact (if_neg a1).trans (if_neg a0)
  · obtain ⟨hkf, hxe⟩ := List.getElem?_eq_some_iff.1 hx
    rw [List.take_add_one, hx, List.drop_eq_getElem_cons hkf, hxe]
    simp only [List.map_cons, List.map_nil, if_true, hne, if_false, List.append_assoc, List.cons_append,
      List.nil_append, Option.toList_some]

example : mSplit 0 ⟨[.one "M", .one "K"], some [.n 4, .n 5], 7, [.U, .C], true⟩ =
    some ⟨[.one "M.1", .one "M.0", .one "K"], some [.n 4, .n 4, .n 5], 7, [.U, .U, .C], true⟩ := by decide +kernel

/-- **swizzle**: the requested order; the authoritative shape with the `swiz_len` prefix re-arranged
    and the common suffix kept equals the shape permuted like the ids; default and mutability kept;
    every rank keeps its own format (full since /repo ba838e8). -/
theorem swizzle_meta (m : Meta) (order : List RId) (hwf : m.wfB = true)
    (hlen : order.length = m.ids.length) :
    mSwizzle order m = sSwizzle order m := by
  obtain ⟨hl, hs, hn⟩ := (metaWfB_iff m).1 hwf
  unfold mSwizzle sSwizzle
  by_cases he : m.ids = order
  · subst he
    simp only [if_true]
    cases m with
    | mk ids shape dflt fmts mutable =>
      simp only [Meta.mk.injEq, true_and, and_true]
      constructor
      · cases shape with
        | none => rfl
        | some sh => simp only [Option.map_some, Option.some.injEq]
                     exact (map_lookD_self default ids sh hn (hs sh rfl)).symm
      · exact (map_lookD_self Fmt.C ids fmts hn hl).symm
  · simp only [he, if_false, Meta.mk.injEq, true_and, and_true]
    cases hsh : m.shape with
    | none => rfl
    | some sh =>
      simp only [Option.map_some, Option.some.injEq]
      have hd := swizLen_drop m.ids order hlen
      have h2 : (m.ids.drop (swizLen m.ids order)).map (fun r => lookD m.ids sh r default) =
          sh.drop (swizLen m.ids order) := by
        rw [List.map_drop, map_lookD_self default m.ids sh hn (hs sh hsh)]
      rw [← h2, ← hd, ← List.map_append, List.take_append_drop]

example : mSwizzle [.one "K", .one "M"] ⟨[.one "M", .one "K"], some [.n 4, .n 5], 7, [.U, .C], true⟩ =
    ⟨[.one "K", .one "M"], some [.n 5, .n 4], 7, [.C, .U], true⟩ := by decide +kernel
example : mSwizzle [.one "K", .one "M", .one "N"] ⟨[.one "M", .one "K", .one "N"], some [.n 4, .n 5, .n 6], 0, [.U, .C, .U], false⟩ =
    ⟨[.one "K", .one "M", .one "N"], some [.n 5, .n 4, .n 6], 0, [.C, .U, .U], false⟩ := by decide +kernel

/-- **swap**: ids exchanged, the authoritative shape with the two entries exchanged (full since /repo
    38ce55b), default and mutability kept, every rank keeps its own format (looked up by id). -/
theorem swap_meta (m : Meta) (k : Nat) (hwf : m.wfB = true) : mSwap k m = sSwap k m := by
  obtain ⟨hl, _, hn⟩ := (metaWfB_iff m).1 hwf
  unfold mSwap sSwap
  by_cases hk : k + 1 < m.ids.length
  · simp only [hk, if_true, Option.some.injEq, Meta.mk.injEq, true_and, and_true]
    rw [map_swapAt]
    unfold Meta.getFmt
    rw [map_lookD_self Fmt.C m.ids m.fmts hn hl]
  · simp [hk]

example : mSwap 0 ⟨[.one "M", .one "K"], some [.n 4, .n 5], 7, [.U, .C], true⟩ =
    some ⟨[.one "K", .one "M"], some [.n 5, .n 4], 7, [.C, .U], true⟩ := by decide +kernel

/-- **flatten / merge**: the merged id list, the shape entry the coordinate style defines, default
    and mutability kept; surviving ranks keep their format (looked up by id), the merged rank is "C". -/
theorem flatten_meta (m : Meta) (style : Style) (k levels : Nat) (hwf : m.wfB = true)
    (hfresh : RId.many (((m.ids.drop k).take (levels + 1)).flatMap RId.toList) ∉ m.ids) :
    mFlatten style k levels m = sFlatten style k levels m := by
  obtain ⟨hl, _, hn⟩ := (metaWfB_iff m).1 hwf
  have hf : (flatIds k levels m.ids).map m.fmtOrC =
      m.fmts.take k ++ [Fmt.C] ++ m.fmts.drop (k + levels + 1) := by
    unfold flatIds
    rw [map_splice Fmt.C m.ids m.fmts hn hl m.fmtOrC (fun r hr => fmtOrC_of_mem hr), List.map_cons,
      List.map_nil, fmtOrC_of_not_mem hfresh]
  unfold mFlatten sFlatten
  simp only [hf]

example : mFlatten .tuple 0 1 ⟨[.one "M", .one "K", .one "N"], some [.n 4, .n 5, .n 6], 7, [.U, .C, .U], true⟩ =
    some ⟨[.many ["M", "K"], .one "N"], some [.cons (.n 4) (.cons (.n 5) .nil), .n 6], 7, [.C, .U], true⟩ := by
  decide +kernel

/-- **unflatten**: the inverse re-arrangement of ids and of the authoritative shape (none if the
    operand's is only estimated; full since /repo COMMIT:C14-01), leaf default (e4536c9) and mutability
    kept, surviving ranks keep their format and the `levels + 1` new ranks are "C". -/
theorem unflatten_meta (m : Meta) (k l : Nat) (ids' : List RId) (hwf : m.wfB = true)
    (hids : unflIds (l + 1) k m.ids = some ids')
    (hnew : ∀ r ∈ (ids'.drop k).take (l + 2), r ∉ m.ids) :
    mUnflatten k (l + 1) m = sUnflatten k (l + 1) m := by
  -- the formats installed (looked up by id, "C" for ids the operand does not have) are the positional ones
  have hf : ids'.map m.fmtOrC =
      m.fmts.take k ++ List.replicate (l + 1 + 1) Fmt.C ++ m.fmts.drop (k + 1) := by
    obtain ⟨hl, _, hn⟩ := (metaWfB_iff m).1 hwf
    obtain ⟨news, hnl, he⟩ := unflIds_form l k m.ids ids' hids
    have hklt : k < m.ids.length := by
      rw [unflIds] at hids
      cases hh : m.ids[k]? with
      | none => rw [hh] at hids; cases hids
      | some v => exact (List.getElem?_eq_some_iff.1 hh).1
    have hlen : (m.ids.take k).length = k := List.length_take_of_le (Nat.le_of_lt hklt)
    have hnews : (ids'.drop k).take (l + 2) = news := by
      have := drop_take_mid (m.ids.take k) news (m.ids.drop (k + 1))
      rw [hlen, hnl] at this
      rw [he]; exact this
    rw [hnews] at hnew
    rw [he, map_splice Fmt.C m.ids m.fmts hn hl m.fmtOrC (fun r hr => fmtOrC_of_mem hr)]
    congr 2
    rw [← hnl]
    refine List.eq_replicate_iff.2 ⟨List.length_map .., fun f hf => ?_⟩
    obtain ⟨r, hr, rfl⟩ := List.mem_map.1 hf
    exact fmtOrC_of_not_mem (hnew r hr)
  unfold mUnflatten sUnflatten
  rw [hids]
  simp only [hf]

example : mUnflatten 0 1
    ⟨[.many ["M", "K"], .one "N"], some [.cons (.n 4) (.cons (.n 5) .nil), .n 6], 7, [.C, .U], true⟩ =
    some ⟨[.one "M", .one "K", .one "N"], some [.n 4, .n 5, .n 6], 7, [.C, .C, .U], true⟩ := by decide +kernel
example : mUnflatten 0 1 ⟨[.many ["M", "K"]], none, 7, [.U], false⟩ =
    some ⟨[.one "M", .one "K"], none, 7, [.C, .C], false⟩ := by decide +kernel

/-- **unflatten is the inverse of flatten on rank ids**: flattening `levels + 1` atomic ranks at
    depth `k` and unflattening `levels` times gives the id list back. -/
theorem unflatten_flatten_ids (ids : List RId) (k l : Nat) (as : List String) (hal : as.length = l + 2)
    (hatoms : (ids.drop k).take (l + 2) = as.map RId.one) (hk : k + l + 1 < ids.length) :
    unflIds (l + 1) k (flatIds k (l + 1) ids) = some ids := by
  unfold flatIds
  rw [hatoms]
  rw [flatMap_toList_map_one as]
  have hlen : (ids.take k).length = k := List.length_take_of_le (by omega)
  have := unflIds_many l (ids.take k) (ids.drop (k + (l + 1) + 1)) as hal
  rw [hlen] at this
  rw [this, ← hatoms]
  exact congrArg some (take_mid_drop ids k (l + 2))

/-- … and on authoritative shapes, for the coordinate styles `tuple` and `pair` -/
theorem unflatten_flatten_shape (style : Style) (hst : style = .tuple ∨ style = .pair)
    (s : List Sx) (k l : Nat) (hk : k + l + 1 < s.length) :
    (flatShape style k (l + 1) s).bind (unflShape (l + 1) k) = some s := by
  have hlen : (s.take k).length = k := List.length_take_of_le (by omega)
  have hseg : ((s.drop k).take (l + 1 + 1)).length = l + 2 := by
    rw [List.length_take, List.length_drop]; omega
  have fin : s.take k ++ (s.drop k).take (l + 1 + 1) ++ s.drop (k + (l + 1) + 1) = s :=
    take_mid_drop s k (l + 2)
  obtain ⟨e, he, hu⟩ : ∃ e, flatEntry style ((s.drop k).take (l + 1 + 1)) = some e ∧
      unflShape (l + 1) (s.take k).length (s.take k ++ [e] ++ s.drop (k + (l + 1) + 1)) =
        some (s.take k ++ (s.drop k).take (l + 1 + 1) ++ s.drop (k + (l + 1) + 1)) := by
    rcases hst with rfl | rfl
    · exact ⟨_, rfl, unflShape_enc Sx.ofList (fun _ _ => rfl)
        (fun l k s a b c r hs => by rw [unflShape, hs]; rfl) l _ _ _ hseg⟩
    · exact ⟨_, rfl, unflShape_enc nestPair (fun _ _ => rfl)
        (fun l k s a b c r hs => by rw [unflShape, hs]; rfl) l _ _ _ hseg⟩
  rw [hlen] at hu
  unfold flatShape
  rw [he, Option.map_some, Option.bind_some, hu, fin]

example : unflIds 2 1 (flatIds 1 2 [.one "A", .one "B", .one "C", .one "D"]) =
    some [.one "A", .one "B", .one "C", .one "D"] := by decide +kernel
example : (flatShape .pair 0 2 [.n 3, .n 4, .n 5]).bind (unflShape 2 0) = some [.n 3, .n 4, .n 5] := by decide +kernel

/-- **updateCoords / updatePayloads**: a deep copy — every reported attribute is the operand's -/
theorem update_meta (m : Meta) : mUpdate m = m := rfl

/-- **constructors**: `fromFiber` (hence `fromUncompressed`, `fromRandom`) reports the given ids,
    the declared shape as authoritative (none if not declared), the given default, every rank "C",
    not mutable; `Tensor(...)` / `makePopulated` the same but mutable. -/
theorem ctor_meta (ids : List RId) (shape : Option (List Sx)) (dflt : Int) :
    (mFromFiber ids shape dflt).ids = ids ∧ (mFromFiber ids shape dflt).shape = shape ∧
    (mFromFiber ids shape dflt).dflt = dflt ∧ (∀ f ∈ (mFromFiber ids shape dflt).fmts, f = Fmt.C) ∧
    (mFromFiber ids shape dflt).fmts.length = ids.length ∧
    (mFromFiber ids shape dflt).mutable = false ∧
    mEmpty ids shape dflt = { mFromFiber ids shape dflt with mutable := true } := by
  refine ⟨rfl, rfl, rfl, ?_, ?_, rfl, rfl⟩
  · intro f hf
    simp only [mFromFiber, List.mem_map] at hf
    obtain ⟨_, _, rfl⟩ := hf; rfl
  · simp [mFromFiber]

/-! ### every stored coordinate lies inside the reported shape and its fiber's active range -/

/-- fibers of a freshly constructed tensor report `(0, shape)` as their active range, so a shape
    that covers the data makes the whole invariant true (declared shape: the caller's obligation) -/
theorem declared_coords_in_shape {ν : Type} (d : Nat) (t : Tree Int ν d) (shape : List Int)
    (hlen : shape.length = d)
    (hcover : ∀ i, i < d → ∀ cs ∈ fibersAt d t i, ∀ c ∈ cs, 0 ≤ c ∧ c < shape.getD i 0) :
    boundsB (shape.map Sx.n) (ctorLevels d t shape) = true := by
  unfold boundsB
  rw [Bool.and_eq_true]
  constructor
  · simp [ctorLevels, hlen]
  · unfold ctorLevels
    rw [show shape.map Sx.n = (List.range d).map (fun i => Sx.n (shape.getD i 0)) from by
      apply List.ext_getElem
      · simp [hlen]
      · intro i h1 h2
        have : i < shape.length := by simpa using h1
        simp [List.getD_eq_getElem?_getD, this]]
    rw [List.zip_map', List.all_map, List.all_eq_true]
    intro i hi
    have hid : i < d := List.mem_range.1 hi
    simp only [Function.comp, List.all_map, List.all_eq_true]
    intro cs hcs
    simp only [Function.comp, fiberInShape, fiberInActive, List.all_map, Bool.and_eq_true, List.all_eq_true]
    refine ⟨fun c hc => ?_, fun c hc => ?_⟩
    · have h := hcover i hid cs hcs c hc
      rw [List.getD_eq_getElem?_getD] at h
      simp [inShape_n, h.1, h.2]
    · have h := hcover i hid cs hcs c hc
      rw [List.getD_eq_getElem?_getD] at h
      simp [inRange_n, h.1, h.2]

/-- **constructor without declared shape**: the shape `Rank.append` estimates (running maximum of
    last coordinate + 1 over the fibers of each rank) covers every stored coordinate of a tree with
    ascending, non-negative coordinates; the fibers carry no explicit range, so `getActive()` is
    `(0, shape)` and covers them too. -/
theorem est_coords_in_shape {ν : Type} (d : Nat) (t : Tree Int ν d)
    (hasc : levelsAscB d t = true) (hnn : nonnegB d t = true) :
    boundsB ((estShape d t).map Sx.n) (ctorLevels d t (estShape d t)) = true := by
  apply declared_coords_in_shape d t (estShape d t) (by simp [estShape])
  intro i hid cs hcs c hc
  have hi : i ∈ List.range d := List.mem_range.2 hid
  have hS : (estShape d t).getD i 0 = estLevel (fibersAt d t i) := by
    unfold estShape
    simp [List.getD_eq_getElem?_getD, hid]
  have hasc' : ∀ x ∈ fibersAt d t i, x.Pairwise (· < ·) := by
    intro x hx
    have := (List.all_eq_true.1 ((List.all_eq_true.1 hasc) i hi)) x hx
    exact (ascB_iff x).1 this
  have hnn' : ∀ x ∈ fibersAt d t i, ∀ c ∈ x, 0 ≤ c := by
    intro x hx c hc
    have := List.all_eq_true.1 ((List.all_eq_true.1 ((List.all_eq_true.1 hnn) i hi)) x hx) c hc
    simpa using this
  rw [hS]
  exact ⟨hnn' cs hcs c hc, lt_estLevel _ hasc' hnn' cs hcs c hc⟩

def C14.exT : Tree Int Int 2 :=
  show List (Int × Tree Int Int 1) from
    [(1, show List (Int × Tree Int Int 0) from [(2, (3 : Int))]), (5, show List (Int × Tree Int Int 0) from [(7, (1 : Int))])]
example : estShape 2 C14.exT = [6, 8] := by decide +kernel
example : levelsAscB 2 C14.exT = true ∧ nonnegB 2 C14.exT = true := by decide +kernel
example : boundsB [.n 6, .n 8] (ctorLevels 2 C14.exT [6, 8]) = true := est_coords_in_shape 2 C14.exT (by decide) (by decide)

/-- **re-arranging transforms** (swizzle, swap, unflatten; updatePayloads): if every coordinate the
    result stores at level `j` was stored by the operand at level `g j` and the result's shape entry
    `j` is the operand's entry `g j`, the operand's "inside the shape" carries over.  The first
    hypothesis is a fact about the tree algorithms, which this module does not model (C09); the
    check evaluates the conclusion on every result of the implementation. -/
theorem rearranged_coords_in_shape_partial (shape shape' : List Sx) (lv lv' : List (List FObs)) (g : Nat → Nat)
    (hsrc : ∀ i, ∀ f ∈ lv.getD i [], fiberInShape (shape.getD i .nil) f = true)
    (hsub : ∀ j, ∀ f' ∈ lv'.getD j [], ∀ c ∈ f'.coords, ∃ f ∈ lv.getD (g j) [], c ∈ f.coords)
    (hshape : ∀ j, shape'.getD j .nil = shape.getD (g j) .nil) :
    ∀ j, ∀ f' ∈ lv'.getD j [], fiberInShape (shape'.getD j .nil) f' = true := by
  intro j f' hf'
  unfold fiberInShape
  rw [List.all_eq_true]
  intro c hc
  obtain ⟨f, hf, hcf⟩ := hsub j f' hf' c hc
  have := hsrc (g j) f hf
  unfold fiberInShape at this
  rw [hshape j]
  exact List.all_eq_true.1 this c hcf

/-- the hypotheses are satisfiable: a 2-rank tensor with its ranks exchanged -/
example : ∀ j, ∀ f' ∈ ([[⟨[.n 3], .n 0, .n 5⟩], [⟨[.n 1], .n 0, .n 4⟩]] : List (List FObs)).getD j [],
    fiberInShape (([.n 5, .n 4] : List Sx).getD j .nil) f' = true :=
  rearranged_coords_in_shape_partial [.n 4, .n 5] [.n 5, .n 4]
    [[⟨[.n 1], .n 0, .n 4⟩], [⟨[.n 3], .n 0, .n 5⟩]] [[⟨[.n 3], .n 0, .n 5⟩], [⟨[.n 1], .n 0, .n 4⟩]]
    (fun j => if j = 0 then 1 else if j = 1 then 0 else j)
    (by intro i f hf
        match i, hf with
        | 0, hf => obtain rfl := List.mem_singleton.1 hf; decide +kernel
        | 1, hf => obtain rfl := List.mem_singleton.1 hf; decide +kernel
        | n + 2, hf => cases hf)
    (by intro j f' hf' c hc
        match j, hf' with
        | 0, hf' =>
          obtain rfl := List.mem_singleton.1 hf'; obtain rfl := List.mem_singleton.1 hc
          exact ⟨⟨[.n 3], .n 0, .n 5⟩, List.mem_singleton.2 rfl, List.mem_singleton.2 rfl⟩
        | 1, hf' =>
          obtain rfl := List.mem_singleton.1 hf'; obtain rfl := List.mem_singleton.1 hc
          exact ⟨⟨[.n 1], .n 0, .n 4⟩, List.mem_singleton.2 rfl, List.mem_singleton.2 rfl⟩
        | n + 2, hf' => cases hf')
    (by intro j
        match j with
        | 0 => rfl
        | 1 => rfl
        | n + 2 => rfl)

/-- **swizzle's active-range reset**: the range the final loop of `swizzleRanks` gives a rebuilt
    fiber (start from the operand ranges containing its FIRST coordinate, end from those containing
    its LAST one) exists as soon as some operand range of that rank contains the first and some
    contains the last coordinate, and it contains every coordinate of the (ascending) fiber. -/
theorem swizzle_reset_contains (ranges : List (Int × Int)) (coords : List Int) (hasc : coords.Pairwise (· < ·))
    (c0 c1 : Int) (h0 : coords.head? = some c0) (h1 : coords.getLast? = some c1)
    (hr0 : ∃ r ∈ ranges, r.1 ≤ c0 ∧ c0 < r.2) (hr1 : ∃ r ∈ ranges, r.1 ≤ c1 ∧ c1 < r.2) :
    ∃ lo hi, swizReset ranges coords = some (lo, hi) ∧ ∀ c ∈ coords, lo ≤ c ∧ c < hi := by
  unfold swizReset
  rw [h0, h1]
  simp only
  obtain ⟨r0, hr0m, hr0a, hr0b⟩ := hr0
  obtain ⟨r1, hr1m, hr1a, hr1b⟩ := hr1
  have hs : r0.1 ∈ (ranges.filter (fun r => decide (r.1 ≤ c0) && decide (c0 < r.2))).map (·.1) :=
    List.mem_map.2 ⟨r0, List.mem_filter.2 ⟨hr0m, by simp [hr0a, hr0b]⟩, rfl⟩
  have he : r1.2 ∈ (ranges.filter (fun r => decide (r.1 ≤ c1) && decide (c1 < r.2))).map (·.2) :=
    List.mem_map.2 ⟨r1, List.mem_filter.2 ⟨hr1m, by simp [hr1a, hr1b]⟩, rfl⟩
  cases hS : (ranges.filter (fun r => decide (r.1 ≤ c0) && decide (c0 < r.2))).map (·.1) with
  | nil => rw [hS] at hs; cases hs
  | cons s ss =>
    cases hE : (ranges.filter (fun r => decide (r.1 ≤ c1) && decide (c1 < r.2))).map (·.2) with
    | nil => rw [hE] at he; cases he
    | cons e es =>
      refine ⟨_, _, rfl, ?_⟩
      -- every start considered is ≤ c0, every end considered is > c1
      have hsall : ∀ x ∈ s :: ss, x ≤ c0 := by
        intro x hx
        rw [← hS] at hx
        obtain ⟨r, hr, rfl⟩ := List.mem_map.1 hx
        have := (List.mem_filter.1 hr).2
        simp only [Bool.and_eq_true, decide_eq_true_eq] at this
        exact this.1
      have heall : ∀ x ∈ e :: es, c1 < x := by
        intro x hx
        rw [← hE] at hx
        obtain ⟨r, hr, rfl⟩ := List.mem_map.1 hx
        have := (List.mem_filter.1 hr).2
        simp only [Bool.and_eq_true, decide_eq_true_eq] at this
        exact this.2
      have hlo : ss.foldl min s ≤ c0 :=
        Int.le_trans (foldl_min_le id ss s).1 (hsall s (List.mem_cons_self ..))
      have hhi : c1 < es.foldl max e :=
        Int.lt_of_lt_of_le (heall e (List.mem_cons_self ..)) (le_foldl_max id es e).1
      intro c hc
      obtain ⟨h, hh, hle⟩ := head_le_of_asc coords hasc c hc
      obtain ⟨l, hl, hge⟩ := le_getLast coords hasc c hc
      rw [h0] at hh; cases hh
      rw [h1] at hl; cases hl
      exact ⟨Int.le_trans hlo hle, Int.lt_of_le_of_lt hge hhi⟩

/-- a rebuilt root that spans two partitions of a split operand: `(0, 8)`, not `(0, 4)` -/
example : swizReset [(0, 4), (4, 8)] [0, 1, 5, 7] = some (0, 8) := by decide +kernel

/-- **flatten** (styles tuple / pair, one level): the merged coordinates `(c1, c0)` lie componentwise
    inside the shape `(S1, S0)` and lexicographically inside the active range the code builds,
    `((lo1, min lo0), (hi1, max hi0))`, whenever each operand fiber's coordinates lie inside its own
    range and shape. -/
theorem flatten_coords_in_bounds_partial {π : Type} (f : Fib Int (AF π)) (lo1 hi1 S1 S0 rs re : Int)
    (hrs : childLo f = some rs) (hre : childHi f = some re)
    (hup : ∀ e ∈ f, lo1 ≤ e.1 ∧ e.1 < hi1 ∧ 0 ≤ e.1 ∧ e.1 < S1)
    (hlow : ∀ e ∈ f, ∀ x ∈ e.2.elems, e.2.lo ≤ x.1 ∧ x.1 < e.2.hi ∧ 0 ≤ x.1 ∧ x.1 < S0) :
    ∀ y ∈ flat2 f, lexLe (lo1, rs) y.1 = true ∧ lexLt y.1 (hi1, re) = true ∧
      (0 ≤ y.1.1 ∧ y.1.1 < S1) ∧ (0 ≤ y.1.2 ∧ y.1.2 < S0) := by
  intro y hy
  unfold flat2 at hy
  rw [List.mem_flatMap] at hy
  obtain ⟨e, he, hy⟩ := hy
  rw [List.mem_map] at hy
  obtain ⟨x, hx, rfl⟩ := hy
  have u := hup e he
  have l := hlow e he x hx
  have a := childLo_le f rs hrs e he
  have b := le_childHi f re hre e he
  simp only [lexLe, lexLt, Bool.or_eq_true, Bool.and_eq_true, decide_eq_true_eq]
  refine ⟨?_, ?_, ⟨u.2.2.1, u.2.2.2⟩, ⟨l.2.2.1, l.2.2.2⟩⟩
  · by_cases h : lo1 < e.1
    · exact Or.inl h
    · exact Or.inr ⟨by omega, by omega⟩
  · exact Or.inl u.2.1

example : (flat2 [((0 : Int), (⟨[((3 : Int), (1 : Int)), (4, 2)], 0, 5⟩ : AF Int)), (1, ⟨[(4, 3)], 0, 5⟩)]).map (·.1) =
    [(0, 3), (0, 4), (1, 4)] := by decide +kernel

/-- **split** (uniform, no halo, absolute or relative coordinates; `uSpec` is what C08's `uniform_spec`
    proves the modelled splitter loop to compute) of a fiber whose range is `(0, S)`: every
    partition coordinate lies inside `[0, S)` (the duplicated shape entry and the upper fiber's
    range), every lower coordinate inside its partition's range — the clipped interval, shifted by the
    partition start for `relativeCoords` (since /repo COMMIT:C14-03) — which lies inside `[0, S)`. -/
theorem split_coords_in_bounds_partial {π : Type} (step S : Int) (rel : Bool) (elems : Fib Int π)
    (hstep : 0 < step) (hS : 0 < S)
    (p : Part π) (hp : p ∈ uSpec step 0 0 0 S rel elems) :
    (0 ≤ p.start ∧ p.start < S) ∧ (0 ≤ p.lo ∧ p.hi ≤ S) ∧ ∀ e ∈ p.elems, p.lo ≤ e.1 ∧ e.1 < p.hi := by
  obtain ⟨P, hP, _, rfl⟩ := (mem_uSpec step 0 0 0 S rel elems p).1 hp
  obtain ⟨hd, h2, h3⟩ := (mem_uCands step 0 S hstep P).1 hP
  -- a multiple of `step` above `-step` is not negative
  have hP0 : 0 ≤ P := by
    apply Int.not_lt.1
    intro hneg
    have := Int.le_of_dvd (show 0 < -P by omega) (Int.dvd_neg.2 hd)
    omega
  have hmem : ∀ e ∈ elems.filter (fun e => uMemb step 0 0 0 S P e.1),
      max P 0 ≤ e.1 ∧ e.1 < min (P + step) S := by
    intro e he
    have := (List.mem_filter.1 he).2
    rw [uMemb_iff] at this
    exact ⟨Int.max_le.2 ⟨by omega, by omega⟩, Int.lt_min.2 ⟨by omega, by omega⟩⟩
  cases rel with
  | false => exact ⟨⟨hP0, h3⟩, ⟨Int.le_max_right P 0, Int.min_le_right ..⟩, hmem⟩
  | true =>
    refine ⟨⟨hP0, h3⟩, ⟨Int.sub_nonneg.2 (Int.le_max_left P 0),
      Int.le_trans (Int.sub_le_self _ hP0) (Int.min_le_right ..)⟩, fun e he => ?_⟩
    obtain ⟨x, hx, rfl⟩ := List.mem_map.1
      (show e ∈ (elems.filter (fun e => uMemb step 0 0 0 S P e.1)).map (fun e => (e.1 - P, e.2)) from he)
    exact ⟨Int.sub_le_sub_right (hmem x hx).1 P, Int.sub_lt_sub_right (hmem x hx).2 P⟩

example : (uSpec 2 0 0 0 4 false [((1 : Int), (10 : Int)), (3, 30)]).map (fun p => (p.start, p.lo, p.hi)) =
    [(0, 0, 2), (2, 2, 4)] := by decide +kernel
example : (uSpec 2 0 0 0 4 true [((1 : Int), (10 : Int)), (3, 30)]).map (fun p => (p.start, p.elems.map (·.1), p.lo, p.hi)) =
    [(0, [1], 0, 2), (2, [1], 0, 2)] := by decide +kernel

/-- … **so active-range iteration equals occupancy iteration**: on an ascending fiber whose
    coordinates all lie inside `[lo, hi)`, `iterActive` presents exactly what is stored. -/
theorem active_iter_eq_occupancy {π : Type} (lo hi : Int) (elems : Fib Int π) (hs : Sorted elems)
    (hin : ∀ e ∈ elems, lo ≤ e.1 ∧ e.1 < hi) : iterActive lo hi elems = elems := by
  rw [iterActive_eq_filter lo hi elems hs, List.filter_eq_self]
  intro e he
  have := hin e he
  simp [this.1, this.2]

example : iterActive 0 5 [((1 : Int), (10 : Int)), (3, 30)] = [(1, 10), (3, 30)] := by decide +kernel
/-- (and a coordinate outside the range is what makes them differ) -/
example : iterActive 2 4 [((1 : Int), (10 : Int))] = [] := by decide +kernel

/-- **lazy results, active range**: every operator gives its result the range the operation defines
    — the first operand's for `& | ^ -`, `prune`, `intersection`, `union`, `coiterActiveShape`; the
    source's for populate; the requested one for `coiterRangeShape` / projection with an interval;
    the transformed range for a projection. -/
theorem lazy_active (op : LazyOp) (a b : FAttr) :
    (lazyAttrs op a b).lo = (lazySpec op a b).lo ∧ (lazyAttrs op a b).hi = (lazySpec op a b).hi := by
  cases op <;> exact ⟨rfl, rfl⟩

/-- **lazy results, rank id**, what holds today: the first operand's id (the destination's for
    populate), except for a projection that does not name its target rank. -/
theorem lazy_attrs_partial (op : LazyOp) (a b : FAttr)
    (h : ∀ k m iv, op ≠ .project k m iv none) : lazyAttrs op a b = lazySpec op a b := by
  cases op with
  | project k m iv rid =>
    cases rid with
    | none => exact absurd rfl (h k m iv)
    | some r => rfl
  | _ => rfl

example : lazyAttrs .populate ⟨"Z", 0, 0⟩ ⟨"B", 0, 9⟩ = ⟨"Z", 0, 9⟩ := by decide +kernel
example : lazyAttrs (.project (-1) 20 none (some "Q")) ⟨"A", 1, 5⟩ ⟨"B", 0, 9⟩ = ⟨"Q", 16, 20⟩ := by decide +kernel

/-- … `project` sets the id only `if rank_id is not None` (fiber.py:1335-1336) -/
theorem lazy_project_id_defect :
    ∃ a b : FAttr, (lazyAttrs (.project 1 0 none none) a b).id ≠ (lazySpec (.project 1 0 none none) a b).id :=
  ⟨⟨"A", 1, 5⟩, ⟨"B", 0, 9⟩, by decide⟩

/-- **projection**: for every affine `trans_fn` (increasing, decreasing or constant) the transformed
    range `(min(f lo, f (hi-1)), max(…) + 1)` contains the image of every coordinate of `[lo, hi)`. -/
theorem project_active_contains (k m lo hi c : Int) (h1 : lo ≤ c) (h2 : c < hi) :
    (projRange k m lo hi).1 ≤ affine k m c ∧ affine k m c < (projRange k m lo hi).2 := by
  have hc : c ≤ hi - 1 := Int.le_sub_one_of_lt h2
  show min (k * lo + m) (k * (hi - 1) + m) ≤ k * c + m ∧ k * c + m < max (k * lo + m) (k * (hi - 1) + m) + 1
  -- an affine map is monotone or antitone: the image of `c` lies between those of the two ends
  rcases Int.le_total 0 k with hk | hk
  · exact ⟨Int.le_trans (Int.min_le_left ..) (Int.add_le_add_right (Int.mul_le_mul_of_nonneg_left h1 hk) m),
      Int.lt_add_one_of_le (Int.le_trans (Int.add_le_add_right (Int.mul_le_mul_of_nonneg_left hc hk) m)
        (Int.le_max_right ..))⟩
  · exact ⟨Int.le_trans (Int.min_le_right ..) (Int.add_le_add_right (Int.mul_le_mul_of_nonpos_left hk hc) m),
      Int.lt_add_one_of_le (Int.le_trans (Int.add_le_add_right (Int.mul_le_mul_of_nonpos_left hk h1) m)
        (Int.le_max_left ..))⟩

example : projRange (-2) 9 1 4 = (3, 8) := by decide +kernel

/-- **intersection and difference** deliver only coordinates of the first operand, so they lie inside
    the range the result inherits from it. -/
theorem lazy_coords_inside {α β : Type} (a : Fib Int α) (b : Fib Int β) (lo hi : Int)
    (ha : ∀ e ∈ a, lo ≤ e.1 ∧ e.1 < hi) :
    (∀ x ∈ andMerge a b, lo ≤ x.1 ∧ x.1 < hi) ∧ (∀ x ∈ subMerge a b, lo ≤ x.1 ∧ x.1 < hi) := by
  constructor
  · intro x hx
    obtain ⟨e, he, h⟩ := andMerge_coord_mem a b x hx
    rw [← h]; exact ha e he
  · intro x hx
    exact ha x (subMerge_mem a b x hx)

example := lazy_coords_inside [((1 : Int), (1 : Int)), (3, 2)] [((3 : Int), (7 : Int)), (8, 9)] 1 5 (by decide)

/-- **attributes on join**: once owned, the fiber answers with its rank's id, shape, default and
    format (its own are no longer consulted); a rank with a declared shape keeps it when a fiber
    without own shape joins; a rank that estimates ends up with a shape covering the new fiber. -/
theorem attrs_on_join (r : RankAttrs) (own : OwnAttrs) (est : Int) :
    joined r own = ⟨r.id, r.shape, r.dflt, r.fmt⟩ ∧
    (r.estimated = false → joinShape r none est = r) ∧
    (r.estimated = true → 0 < est → (∀ s, r.shape = some s → 0 ≤ s) →
      ∃ s, (joinShape r none est).shape = some s ∧ est ≤ s) := by
  refine ⟨rfl, ?_, ?_⟩
  · intro h
    simp [joinShape, h]
  · intro h hpos hs
    have hne : est ≠ 0 := by omega
    cases hsh : r.shape with
    | none => exact ⟨est, by simp [joinShape, h, hsh, hne], Int.le_refl _⟩
    | some o => exact ⟨max o est, by simp [joinShape, h, hsh, hne], by omega⟩

example : joinShape ⟨"M", none, true, 0, .C⟩ (some 9) 3 = ⟨"M", some 9, false, 0, .C⟩ := by decide +kernel
example : joinShape ⟨"M", some 6, false, 0, .C⟩ (some 9) 3 = ⟨"M", some 9, false, 0, .C⟩ := by decide +kernel

end Ft
