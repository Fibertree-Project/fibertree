/-
  C11 — arithmetic on boxes and on fibers agrees with arithmetic on the values.
  Property theorems only; helper lemmas live in FtProofs/Lemmas/Arith.lean.

  The statements about boxes and elements are polymorphic in the value algebra `Alg ν ε` (ints,
  floats, … — whatever the underlying Python operators do, including raising), those about fibers
  in the leaf values `ν` (with the algebraic laws a statement needs as explicit hypotheses) and,
  where only order matters, in the coordinates.
-/
import FtProofs.Lemmas.Arith
namespace Ft
open StrictTotal Arith

section
variable {ν ε : Type} (A : Alg ν ε)

/-- **Operator table.** For every documented operator (`+ - * / // << & |`) and every
    operand-kind combination with at least one box or element (box-box, box-scalar, scalar-box,
    and an element on either side), the expression evaluates to a box holding the result of the
    same operator on the underlying values — or raises exactly what the value operator raises. -/
theorem box_op_table (op : BinOp) (ka kb : Kind) (x y : ν) (hk : ¬ (ka = .S ∧ kb = .S)) :
    pyBin A op ka kb x y = binSpec A op x y := by
  match ka, kb, hk with
  | .S, .S, hk => exact absurd ⟨rfl, rfl⟩ hk
  | .P, .E, _ => exact Res.rebox_rebox _
  | .P, .S, _ | .S, .P, _ | .P, .P, _ | .E, .S, _ | .S, .E, _ | .E, .E, _ | .E, .P, _ => rfl

/-- **Comparison table (full).** All six comparisons, all operand-kind combinations: the result
    is the comparison of the underlying values, given the one law of the value order that
    Python's reflected dispatch relies on (`y > x` is `x < y`, …). -/
theorem box_cmp_table (hsw : ∀ c x y, A.cmp c.swap y x = A.cmp c x y)
    (c : CmpOp) (ka kb : Kind) (x y : ν) : pyCmp A c ka kb x y = A.cmp c x y := by
  match ka, kb with
  | .S, .P | .S, .E | .P, .E => exact hsw c x y
  | .S, .S | .P, .S | .P, .P | .E, .S | .E, .E | .E, .P => rfl

/-- **In-place forms.** `+= -= *= /= <<=` on a box or on an element, with a scalar, a box or an
    element on the right: the statement leaves the name bound to the same object, whose box now
    holds the operator's result (`<<=`: the new value) — or raises what the value operator
    raises and changes nothing. -/
theorem inplace_same_ref (i : IOp) (ka kb : Kind) (x y : ν) (hka : ka ≠ .S) :
    pyIop A i ka kb x y = iopSpec A i x y := by
  cases ka with
  | S => exact absurd rfl hka
  | P => exact iopP_eq_spec A i kb x y
  | E => exact iopP_eq_spec A i _ x y

/-- `<<=` replaces the value and keeps the object, whatever the kinds of the two operands. -/
theorem ilshift_replaces (ka kb : Kind) (x y : ν) (hka : ka ≠ .S) :
    pyIop A .ishl ka kb x y = .done .same (.val y) :=
  inplace_same_ref A .ishl ka kb x y hka

end

/-! ### non-vacuity for boxes and elements: an integer algebra -/
namespace C11

/-- `+ - *` and the comparisons of `Int`; `/` raising on a zero divisor (exact quotients only) -/
def intAlg : Alg Int String where
  bin := fun op x y =>
    match op with
    | .add => .ok (x + y)
    | .sub => .ok (x - y)
    | .mul => .ok (x * y)
    | .div => if y = 0 then .error "ZeroDivisionError" else .ok (x / y)
    | .fdiv => if y = 0 then .error "ZeroDivisionError" else .ok (Int.fdiv x y)
    | _ => .error "not modelled"
  cmp := fun c x y =>
    match c with
    | .eq => decide (x = y) | .ne => decide (x ≠ y) | .lt => decide (x < y)
    | .le => decide (x ≤ y) | .gt => decide (x > y) | .ge => decide (x ≥ y)

theorem intAlg_swap : ∀ c x y, intAlg.cmp (CmpOp.swap c) y x = intAlg.cmp c x y := by
  intro c x y
  cases c with
  | eq => exact decide_eq_decide.2 eq_comm
  | ne => exact decide_eq_decide.2 ne_comm
  | _ => rfl

example : pyBin intAlg .sub .S .E 12 5 = .boxed 7 :=
  box_op_table intAlg .sub .S .E 12 5 (by decide)
example : pyBin intAlg .div .P .S 12 0 = .raised "ZeroDivisionError" :=
  box_op_table intAlg .div .P .S 12 0 (by decide)
example : pyBin intAlg .fdiv .S .E 12 5 = .boxed 2 :=
  box_op_table intAlg .fdiv .S .E 12 5 (by decide)
example : pyCmp intAlg .lt .S .E 4 5 = true := by
  rw [box_cmp_table intAlg intAlg_swap]; decide
example : pyIop intAlg .imul .E .P 12 5 = .done .same (.val 60) :=
  inplace_same_ref intAlg .imul .E .P 12 5 (by decide)
example : pyIop intAlg .idiv .E .S 12 4 = .done .same (.val 3) :=
  inplace_same_ref intAlg .idiv .E .S 12 4 (by decide)
example : pyIop intAlg .ishl .P .E 12 5 = .done .same (.val 5) :=
  ilshift_replaces intAlg .P .E 12 5 (by decide)

end C11

section
variable {κ ν : Type} [LT κ] [DecidableRel (α := κ) (· < ·)] [DecidableEq κ] [StrictTotal κ]
variable [DecidableEq ν]

/-- **Fiber + fiber is the elementwise sum over the union of coordinates** (any depth, any
    defaults `dfa` of `a` and `dfb` of `b`, equal or not): at every point the dense view of
    `a + b` is the sum of the operands' dense views wherever either operand differs from its own
    default (an absent side contributing ITS OWN default), and `a`'s default elsewhere. -/
theorem fiber_add_spec [Add ν] (dfa dfb : ν) : ∀ (d : Nat) (a b : Tree κ ν (d + 1)),
    WF (d + 1) a → WF (d + 1) b → ∀ p : List κ,
    denseAt dfa (d + 1) (addT dfa dfb (d + 1) a b) p =
      addExpect dfa dfb (denseAt dfa (d + 1) a p) (denseAt dfb (d + 1) b p) := by
  intro d
  induction d with
  | zero =>
    exact addT_dense_succ dfa dfb 0 (fun x y _ _ h q =>
      (if_pos (h.imp ne_of_not_isEmpty_zero ne_of_not_isEmpty_zero)).symm)
  | succ d ih => exact addT_dense_succ dfa dfb (d + 1) (fun a b ha hb _ => ih a b ha hb)

/-- **Fiber * fiber is the elementwise product over the intersection of coordinates** (any
    depth, any default): the dense view of `a * b` is the product of the operands' dense views
    where both are non-default, and the default elsewhere. -/
theorem fiber_mul_spec [Mul ν] (dflt : ν) : ∀ (d : Nat) (a b : Tree κ ν (d + 1)),
    WF (d + 1) a → WF (d + 1) b → ∀ p : List κ,
    denseAt dflt (d + 1) (mulT dflt (d + 1) a b) p =
      mulExpect dflt (denseAt dflt (d + 1) a p) (denseAt dflt (d + 1) b p) := by
  intro d
  induction d with
  | zero =>
    exact mulT_dense_succ dflt 0 (fun x y _ _ hx hy q =>
      (if_pos ⟨ne_of_not_isEmpty_zero hx, ne_of_not_isEmpty_zero hy⟩).symm)
  | succ d ih => exact mulT_dense_succ dflt (d + 1) (fun a b ha hb _ _ => ih a b ha hb)

/-- **What `a += b` does, pointwise** (any depth, any default): the right operand's value is
    added wherever the right operand is non-default; everything else is untouched. -/
theorem fiber_iadd_dense [Add ν] (dflt : ν) : ∀ (d : Nat) (a b : Tree κ ν (d + 1)),
    WF (d + 1) a → WF (d + 1) b → ∀ p : List κ,
    denseAt dflt (d + 1) (iaddT dflt (d + 1) a b) p =
      iaddExpect dflt (denseAt dflt (d + 1) a p) (denseAt dflt (d + 1) b p) := by
  intro d
  induction d with
  | zero =>
    exact iaddT_dense_succ dflt 0 (fun x y _ _ hy q => (if_pos (ne_of_not_isEmpty_zero hy)).symm)
  | succ d ih => exact iaddT_dense_succ dflt (d + 1) (fun a b ha hb _ => ih a b ha hb)

/-- **In-place sum = value-returning sum (partial).** When the default is a right identity of
    `+` (the usual default 0), `a += b` leaves `a` with the dense view of `a + b`.
    Without that hypothesis the two differ on points only `a` stores (`a + b` adds `b`'s default
    there, `a += b` does not): see `today_fiber_iadd_vs_add`. -/
theorem fiber_iadd_eq_add_partial [Add ν] (dflt : ν) (hr : ∀ x : ν, x + dflt = x)
    (d : Nat) (a b : Tree κ ν (d + 1)) (ha : WF (d + 1) a) (hb : WF (d + 1) b) (p : List κ) :
    denseAt dflt (d + 1) (iaddT dflt (d + 1) a b) p =
      denseAt dflt (d + 1) (addT dflt dflt (d + 1) a b) p := by
  rw [fiber_iadd_dense dflt d a b ha hb p, fiber_add_spec dflt dflt d a b ha hb p]
  simp only [iaddExpect, addExpect]
  by_cases hy : denseAt dflt (d + 1) b p = dflt
  · by_cases hx : denseAt dflt (d + 1) a p = dflt
    · simp [hx, hy]
    · simp [hx, hy, hr]
  · simp [hy]

/-- **`a += b` = `a + b` for integer payloads with the usual default 0**, any depth, any
    coordinate type, no side condition beyond well-formedness: the instance of
    `fiber_iadd_eq_add_partial` the campaigns live in (`x + 0 = x`). -/
theorem fiber_iadd_eq_add_int_zero (d : Nat) (a b : Tree κ Int (d + 1)) (ha : WF (d + 1) a)
    (hb : WF (d + 1) b) (p : List κ) :
    denseAt (0 : Int) (d + 1) (iaddT 0 (d + 1) a b) p =
      denseAt 0 (d + 1) (addT 0 0 (d + 1) a b) p :=
  fiber_iadd_eq_add_partial (0 : Int) Int.add_zero d a b ha hb p

/-- **In-place product = value-returning product.** `a *= b` leaves `a` with the dense view
    of `a * b` (any depth, any default): matched elements hold the product, elements only `a`
    presents are emptied. -/
theorem fiber_imul_eq_mul [Mul ν] (dflt : ν) (d : Nat) (a b : Tree κ ν (d + 1))
    (ha : WF (d + 1) a) (hb : WF (d + 1) b) (p : List κ) :
    denseAt dflt (d + 1) (imulT dflt d a b) p = denseAt dflt (d + 1) (mulT dflt (d + 1) a b) p := by
  cases p with
  | nil => rw [denseAt_nil, denseAt_nil]
  | cons c q =>
    rw [denseAt_cons, denseAt_cons, lookup_imulT dflt d a b ha hb c, lookup_mulT dflt d a b ha hb c,
      lookup_present dflt d a ha.sorted c]
    cases hl : lookup (show List (κ × Tree κ ν d) from a) c with
    | none => rfl
    | some x =>
      by_cases he : isEmpty dflt d x = true
      · -- an empty element of `a` is skipped by both loops and is not presented to `*`:
        -- it stays, and is default everywhere, like the absent product
        have hx : denseAt dflt d x q = dflt := denseAt_of_isEmpty dflt d x q he
        cases lookup (present dflt d b) c <;> simp [he, hx, denseAt_dfltTree]
      · cases hy : lookup (present dflt d b) c with
        | none =>
          -- presented by `a` only: emptied by `*=`, absent from `a * b`
          simp [he]
        | some y =>
          -- presented by both: `<<=` stores a copy of the product, with the product's dense view
          simp [he,
            denseAt_nonEmpty dflt d _ (mulT_WF dflt d x y (WF_of_lookup ha hl) (WF_of_lookup_present hb hy)) q]

/-- **Fiber * scalar scales the stored elements, at any depth**: the dense view of `s * f` is
    `s *` the operand's value wherever that is non-default, and the default elsewhere. -/
theorem fiber_scalar_mul_spec [Mul ν] (dflt s : ν) : ∀ (d : Nat) (a : Tree κ ν (d + 1)),
    WF (d + 1) a → ∀ p : List κ,
    denseAt dflt (d + 1) (smulT dflt s (d + 1) a) p =
      if denseAt dflt (d + 1) a p ≠ dflt then s * denseAt dflt (d + 1) a p else dflt := by
  intro d
  induction d with
  | zero =>
    exact smulT_dense_succ dflt s 0 (fun x _ hx q => (if_pos (ne_of_not_isEmpty_zero hx)).symm)
  | succ d ih => exact smulT_dense_succ dflt s (d + 1) (fun a ha _ => ih a ha)

end

section
variable {ν : Type} [DecidableEq ν]

/-- **Fiber + scalar adds over the whole shape**: inside `[0, n)` every coordinate — stored or
    not — holds `s +` the operand's dense value; outside the shape the result stores nothing. -/
theorem fiber_scalar_add [Add ν] (dflt s : ν) (n : Nat) (f : Fib Int ν) (c : Int) :
    denseAt dflt 1 (leafFiber (saddF dflt s n f)) [c] =
      if 0 ≤ c ∧ c < (n : Int) then s + denseAt dflt 1 (leafFiber f) [c] else dflt := by
  rw [denseAt_leaf, denseAt_leaf]
  unfold saddF
  rw [lookup_range_map (fun i => s + (lookup f (i : Int)).getD dflt) n c]
  by_cases h : 0 ≤ c ∧ c < (n : Int)
  · rw [if_pos h, if_pos h, Int.toNat_of_nonneg h.1]; rfl
  · rw [if_neg h, if_neg h]; rfl

/-- **Fiber * scalar scales the stored (non-default) elements** and stores nothing else. -/
theorem fiber_scalar_mul [Mul ν] (dflt s : ν) (f : Fib Int ν) (hs : Sorted f) (c : Int) :
    denseAt dflt 1 (leafFiber (smulF dflt s f)) [c] =
      if denseAt dflt 1 (leafFiber f) [c] ≠ dflt
      then s * denseAt dflt 1 (leafFiber f) [c] else dflt := by
  rw [denseAt_leaf, denseAt_leaf]
  unfold smulF
  rw [lookup_map_payload (f.filter (fun e => !decide (e.2 = dflt))) (fun _ v => s * v) c,
    lookup_filter_of_sorted hs (fun e => !decide (e.2 = dflt)) c]
  cases hl : lookup f c with
  | none => simp
  | some v => by_cases hv : v = dflt <;> simp [hv]

/-- what `f += s` does: inside the shape every coordinate gets `+ s` (absent ones are created
    from the default); coordinates outside the shape are left alone -/
theorem fiber_scalar_iadd_dense [Add ν] (dflt s : ν) (n : Nat) (f : Fib Int ν) (hs : Sorted f) (c : Int) :
    denseAt dflt 1 (leafFiber (isaddF dflt s n f)) [c] =
      if 0 ≤ c ∧ c < (n : Int) then denseAt dflt 1 (leafFiber f) [c] + s
      else denseAt dflt 1 (leafFiber f) [c] := by
  rw [denseAt_leaf, denseAt_leaf, (lookup_isaddF dflt s n f hs).2 c]
  by_cases h : 0 ≤ c ∧ c < (n : Int)
  · rw [if_pos h, if_pos h]; rfl
  · rw [if_neg h, if_neg h]

/-- what `f *= s` does: the stored non-default values are scaled in place -/
theorem fiber_scalar_imul_dense [Mul ν] (dflt s : ν) (f : Fib Int ν) (c : Int) :
    denseAt dflt 1 (leafFiber (ismulF dflt s f)) [c] =
      if denseAt dflt 1 (leafFiber f) [c] ≠ dflt
      then denseAt dflt 1 (leafFiber f) [c] * s
      else denseAt dflt 1 (leafFiber f) [c] := by
  rw [denseAt_leaf, denseAt_leaf]
  have hmap : ismulF dflt s f = f.map (fun e => (e.1, (fun _ v => if v = dflt then v else v * s) e.1 e.2)) := by
    unfold ismulF
    apply List.map_congr_left
    intro e _
    obtain ⟨k, v⟩ := e
    by_cases hv : v = dflt <;> simp [hv]
  rw [hmap, lookup_map_payload f (fun _ v => if v = dflt then v else v * s) c]
  cases hl : lookup f c with
  | none => simp
  | some v =>
    by_cases hv : v = dflt
    · simp [hv]
    · simp [hv]

/-- **`f += s` = `f + s` (partial)**: when every coordinate of `f` lies inside the shape and `s`
    commutes with the values (`+` evaluates `s + v`, `+=` evaluates `v + s`). -/
theorem fiber_scalar_iadd_eq_add_partial [Add ν] (dflt s : ν) (n : Nat) (f : Fib Int ν) (hs : Sorted f)
    (hcomm : ∀ v : ν, s + v = v + s) (hin : inShapeB n f = true) (c : Int) :
    denseAt dflt 1 (leafFiber (isaddF dflt s n f)) [c] =
      denseAt dflt 1 (leafFiber (saddF dflt s n f)) [c] := by
  rw [fiber_scalar_iadd_dense dflt s n f hs c, fiber_scalar_add dflt s n f c]
  by_cases h : 0 ≤ c ∧ c < (n : Int)
  · rw [if_pos h, if_pos h, hcomm]
  · rw [if_neg h, if_neg h, denseAt_leaf]
    cases hl : lookup f c with
    | none => rfl
    | some v =>
      exfalso
      have hm := mem_of_lookup_eq_some hl
      have := List.all_eq_true.1 hin (c, v) hm
      simp only [Bool.and_eq_true, decide_eq_true_eq] at this
      exact h this

/-- **`f *= s` = `f * s` (partial)**: when `s` commutes with the values. -/
theorem fiber_scalar_imul_eq_mul_partial [Mul ν] (dflt s : ν) (f : Fib Int ν) (hs : Sorted f)
    (hcomm : ∀ v : ν, s * v = v * s) (c : Int) :
    denseAt dflt 1 (leafFiber (ismulF dflt s f)) [c] =
      denseAt dflt 1 (leafFiber (smulF dflt s f)) [c] := by
  rw [fiber_scalar_imul_dense dflt s f c, fiber_scalar_mul dflt s f hs c]
  by_cases h : denseAt dflt 1 (leafFiber f) [c] ≠ dflt
  · rw [if_pos h, if_pos h, hcomm]
  · rw [if_neg h, if_neg h]
    exact Classical.not_not.1 h

/-- **Fiber + scalar adds over the whole (multi-rank) shape, at any depth**: at every point
    inside the shape the dense view of `s + f` is `s +` the operand's dense value (stored or not),
    outside the shape nothing is stored. -/
theorem fiber_scalar_add_spec [Add ν] (dflt s : ν) : ∀ (d : Nat) (shp : List Nat) (a : Tree Int ν (d + 1))
    (p : List Int), p.length = d + 1 → shp.length = d + 1 →
    denseAt dflt (d + 1) (saddT dflt s (d + 1) shp a) p =
      if inGridB shp p = true then s + denseAt dflt (d + 1) a p else dflt := by
  intro d shp a p hp _
  exact saddT_dense dflt s (d + 1) shp a p hp

end

/-! ### integer payloads: the commutation hypotheses of the two `_partial` statements are discharged

    The payload type every campaign of the harness generates is `Int` (Python ints), where scalar
    `+` and `*` commute; for that instance the in-place and the out-of-place scalar operators
    agree with no algebraic side condition left (the shape condition of `+=` stays: it is about
    coordinates, not about values). -/

/-- **`f *= s` = `f * s` for integer payloads**, every default, every sorted fiber. -/
theorem fiber_scalar_imul_eq_mul_int (dflt s : Int) (f : Fib Int Int) (hs : Sorted f) (c : Int) :
    denseAt dflt 1 (leafFiber (ismulF dflt s f)) [c] =
      denseAt dflt 1 (leafFiber (smulF dflt s f)) [c] :=
  fiber_scalar_imul_eq_mul_partial dflt s f hs (fun v => Int.mul_comm s v) c

/-- **`f += s` = `f + s` for integer payloads** whenever every stored coordinate lies inside
    the shape (outside it the two differ: `f + s` drops such a coordinate, `f += s` keeps it). -/
theorem fiber_scalar_iadd_eq_add_int (dflt s : Int) (n : Nat) (f : Fib Int Int) (hs : Sorted f)
    (hin : inShapeB n f = true) (c : Int) :
    denseAt dflt 1 (leafFiber (isaddF dflt s n f)) [c] =
      denseAt dflt 1 (leafFiber (saddF dflt s n f)) [c] :=
  fiber_scalar_iadd_eq_add_partial dflt s n f hs (fun v => Int.add_comm s v) hin c

section
variable {κ ν : Type} [LT κ] [DecidableRel (α := κ) (· < ·)] [DecidableEq κ] [StrictTotal κ]
variable [DecidableEq ν]

/-- the executable pointwise check accepts the model's sum -/
theorem fiber_add_specB_sound [Add ν] (dflt : ν) (d : Nat) (a b : Tree κ ν (d + 1))
    (ha : WF (d + 1) a) (hb : WF (d + 1) b) :
    pointwiseB dflt (d + 1) (addExpect dflt dflt) a b (addT dflt dflt (d + 1) a b) = true := by
  unfold pointwiseB
  exact List.all_eq_true.2 (fun p _ => decide_eq_true (fiber_add_spec dflt dflt d a b ha hb p))

/-- the executable pointwise check accepts the model's product -/
theorem fiber_mul_specB_sound [Mul ν] (dflt : ν) (d : Nat) (a b : Tree κ ν (d + 1))
    (ha : WF (d + 1) a) (hb : WF (d + 1) b) :
    pointwiseB dflt (d + 1) (mulExpect dflt) a b (mulT dflt (d + 1) a b) = true := by
  unfold pointwiseB
  exact List.all_eq_true.2 (fun p _ => decide_eq_true (fiber_mul_spec dflt d a b ha hb p))

/-- **The executable pointwise check decides the pointwise statement**: checking the stored
    points of the operands and of the candidate output is enough for all points (of full
    length), for any expectation that maps two defaults to the default. -/
theorem pointwiseB_complete (dflt : ν) (d : Nat) (exp : ν → ν → ν) (hexp : exp dflt dflt = dflt)
    (a b out : Tree κ ν d) (h : pointwiseB dflt d exp a b out = true) (p : List κ) (hp : p.length = d) :
    denseAt dflt d out p = exp (denseAt dflt d a p) (denseAt dflt d b p) := by
  unfold pointwiseB at h
  by_cases hm : p ∈ pointsOf dflt d [a, b, out]
  · exact of_decide_eq_true (List.all_eq_true.1 h p hm)
  · have hnot : ∀ t ∈ [a, b, out], denseAt dflt d t p = dflt := by
      intro t ht
      apply Classical.byContradiction
      intro hne
      apply hm
      unfold pointsOf
      exact List.mem_flatMap.2 ⟨t, ht, mem_points_of_dense_ne dflt d t p hp hne⟩
    rw [hnot a (by simp), hnot b (by simp), hnot out (by simp), hexp]

/-- **Today's `+=` versus `+` with a default that is not a right identity**: on a point only
    `a` stores, `a += b` keeps `a`'s value while `a + b` adds `b`'s default to it. -/
theorem today_fiber_iadd_vs_add [Add ν] (dflt : ν) (d : Nat) (a b : Tree κ ν (d + 1))
    (ha : WF (d + 1) a) (hb : WF (d + 1) b) (p : List κ)
    (hx : denseAt dflt (d + 1) a p ≠ dflt) (hy : denseAt dflt (d + 1) b p = dflt) :
    denseAt dflt (d + 1) (iaddT dflt (d + 1) a b) p = denseAt dflt (d + 1) a p ∧
    denseAt dflt (d + 1) (addT dflt dflt (d + 1) a b) p = denseAt dflt (d + 1) a p + dflt := by
  rw [fiber_iadd_dense dflt d a b ha hb p, fiber_add_spec dflt dflt d a b ha hb p, hy]
  simp [iaddExpect, addExpect, hx]

end

/-! ### non-vacuity for fibers: concrete overlapping fibers satisfy every hypothesis -/
namespace C11

def exA0 : Fib Int Int := [(0, 2), (1, 3), (3, 4)]
def exB0 : Fib Int Int := [(1, 5), (2, 6)]
def exC0 : Fib Int Int := [(0, 1), (1, 5), (2, 6), (3, -4)]
theorem exA0_sorted : Sorted exA0 := by unfold Sorted exA0; decide
theorem exB0_sorted : Sorted exB0 := by unfold Sorted exB0; decide
theorem exC0_sorted : Sorted exC0 := by unfold Sorted exC0; decide
def exA : Tree Int Int 1 := leafFiber exA0
def exB : Tree Int Int 1 := leafFiber exB0
def exC : Tree Int Int 1 := leafFiber exC0
theorem exA_WF : WF 1 exA := ⟨exA0_sorted, fun _ _ => trivial⟩
theorem exB_WF : WF 1 exB := ⟨exB0_sorted, fun _ _ => trivial⟩
theorem exC_WF : WF 1 exC := ⟨exC0_sorted, fun _ _ => trivial⟩
/-- a two-level tree with an empty sub-fiber and an explicit default -/
def exD : Tree Int Int 2 :=
  show List (Int × Tree Int Int 1) from [(0, exA), (2, leafFiber []), (5, leafFiber [(1, 0), (4, 7)])]
theorem exD_WF : WF 2 exD := by
  refine ⟨by unfold Sorted exD; decide, ?_⟩
  intro e he
  have he' : e = (0, exA) ∨ e = (2, leafFiber []) ∨ e = (5, leafFiber [(1, 0), (4, 7)]) := by
    simpa [exD] using he
  rcases he' with rfl | rfl | rfl
  · exact exA_WF
  · exact ⟨sorted_nil, fun _ h => by cases h⟩
  · exact ⟨by unfold Sorted leafFiber; decide, fun _ _ => trivial⟩

example : ∀ p, denseAt (0 : Int) 1 (addT 0 0 1 exA exB) p =
    addExpect 0 0 (denseAt 0 1 exA p) (denseAt 0 1 exB p) := fiber_add_spec 0 0 0 exA exB exA_WF exB_WF
example : ∀ p, denseAt (0 : Int) 2 (addT 0 0 2 exD exD) p =
    addExpect 0 0 (denseAt 0 2 exD p) (denseAt 0 2 exD p) := fiber_add_spec 0 0 1 exD exD exD_WF exD_WF
example : ∀ p, denseAt (7 : Int) 1 (addT 7 0 1 exA exB) p =
    addExpect 7 0 (denseAt 7 1 exA p) (denseAt 0 1 exB p) := fiber_add_spec 7 0 0 exA exB exA_WF exB_WF
example : ∀ p, denseAt (7 : Int) 1 (mulT 7 1 exA exB) p =
    mulExpect 7 (denseAt 7 1 exA p) (denseAt 7 1 exB p) := fiber_mul_spec 7 0 exA exB exA_WF exB_WF
example : ∀ p, denseAt (0 : Int) 2 (iaddT 0 2 exD exD) p =
    iaddExpect 0 (denseAt 0 2 exD p) (denseAt 0 2 exD p) := fiber_iadd_dense 0 1 exD exD exD_WF exD_WF
example : ∀ p, denseAt (0 : Int) 1 (iaddT 0 1 exA exB) p = denseAt 0 1 (addT 0 0 1 exA exB) p :=
  fiber_iadd_eq_add_partial 0 (by intro x; omega) 0 exA exB exA_WF exB_WF
example : ∀ p, denseAt (0 : Int) 1 (imulT 0 0 exA exB) p = denseAt 0 1 (mulT 0 1 exA exB) p :=
  fiber_imul_eq_mul 0 0 exA exB exA_WF exB_WF
example : ∀ p, denseAt (0 : Int) 2 (imulT 0 1 exD exD) p = denseAt 0 2 (mulT 0 2 exD exD) p :=
  fiber_imul_eq_mul 0 1 exD exD exD_WF exD_WF
/-- default 7: `[(1,3)] += []` keeps 3 at coordinate 1, `[(1,3)] + []` gives 3 + 7 -/
example : denseAt (7 : Int) 1 (iaddT 7 1 (leafFiber [((1 : Int), (3 : Int))]) (leafFiber [])) [1] = 3 ∧
    denseAt (7 : Int) 1 (addT 7 7 1 (leafFiber [((1 : Int), (3 : Int))]) (leafFiber [])) [1] = 3 + 7 := by
  have hw : WF 1 (leafFiber [((1 : Int), (3 : Int))]) :=
    ⟨by unfold Sorted leafFiber; decide, fun _ _ => trivial⟩
  have hn : WF 1 (leafFiber ([] : Fib Int Int)) := ⟨sorted_nil, fun _ h => by cases h⟩
  exact today_fiber_iadd_vs_add (7 : Int) 0 _ _ hw hn [1] (by decide) (by decide)
example : ∀ c, denseAt (0 : Int) 1 (leafFiber (saddF 0 5 4 exA0)) [c] =
    if 0 ≤ c ∧ c < ((4 : Nat) : Int) then 5 + denseAt 0 1 (leafFiber exA0) [c] else 0 :=
  fiber_scalar_add 0 5 4 exA0
example : ∀ c, denseAt (0 : Int) 1 (leafFiber (smulF 0 5 exA0)) [c] =
    if denseAt 0 1 (leafFiber exA0) [c] ≠ 0 then 5 * denseAt 0 1 (leafFiber exA0) [c] else 0 :=
  fiber_scalar_mul 0 5 exA0 exA0_sorted
example : ∀ c, denseAt (0 : Int) 1 (leafFiber (isaddF 0 5 4 exA0)) [c] =
    denseAt 0 1 (leafFiber (saddF 0 5 4 exA0)) [c] :=
  fiber_scalar_iadd_eq_add_partial 0 5 4 exA0 exA0_sorted (by intro v; omega) (by decide)
example : ∀ c, denseAt (0 : Int) 1 (leafFiber (ismulF 0 5 exA0)) [c] =
    denseAt 0 1 (leafFiber (smulF 0 5 exA0)) [c] :=
  fiber_scalar_imul_eq_mul_partial 0 5 exA0 exA0_sorted (by intro v; exact Int.mul_comm 5 v)

example : ∀ p, denseAt (0 : Int) 2 (smulT 0 5 2 exD) p =
    if denseAt 0 2 exD p ≠ 0 then 5 * denseAt 0 2 exD p else 0 :=
  fiber_scalar_mul_spec 0 5 1 exD exD_WF
example : ∀ p : List Int, p.length = 2 → denseAt (0 : Int) 2 (saddT 0 5 2 [6, 5] exD) p =
    if inGridB [6, 5] p = true then 5 + denseAt 0 2 exD p else 0 :=
  fun p hp => fiber_scalar_add_spec 0 5 1 [6, 5] exD p hp rfl
example : ∀ p, denseAt (0 : Int) 2 (iaddT 0 2 exD exD) p = denseAt 0 2 (addT 0 0 2 exD exD) p :=
  fiber_iadd_eq_add_int_zero 1 exD exD exD_WF exD_WF
example : ∀ c, denseAt (7 : Int) 1 (leafFiber (ismulF 7 5 exA0)) [c] =
    denseAt 7 1 (leafFiber (smulF 7 5 exA0)) [c] :=
  fiber_scalar_imul_eq_mul_int 7 5 exA0 exA0_sorted
example : ∀ c, denseAt (0 : Int) 1 (leafFiber (isaddF 0 5 4 exA0)) [c] =
    denseAt 0 1 (leafFiber (saddF 0 5 4 exA0)) [c] :=
  fiber_scalar_iadd_eq_add_int 0 5 4 exA0 exA0_sorted (by decide)

end C11
end Ft
