/-
  C03 — point access behaves like a map from points to values.
  Property theorems only; helpers in FtProofs/Lemmas/{PointLemmas,AssignLemmas}.lean.
-/
import FtProofs.Lemmas.PointLemmas
import FtProofs.Lemmas.AssignLemmas
import FtProofs.C12
set_option linter.unusedSectionVars false
namespace Ft
open StrictTotal

section
variable {κ ν : Type} [LT κ] [DecidableRel (α := κ) (· < ·)] [DecidableEq κ] [StrictTotal κ]

/-- reading a full point (position search as the code does it) returns the abstract value -/
theorem getPayload_val (dflt : ν) (d : Nat) (t : Tree κ ν d) (h : WF d t) (p : List κ) :
    getLeaf dflt d t p = val dflt d t p := by
  revert t p
  induction d with
  | zero => intro _ _ _; rfl
  | succ d ih =>
    intro f h p
    cases p with
    | nil => rfl
    | cons c cs =>
      simp only [getLeaf, val]
      rw [posLookup_eq_lookup h.sorted]
      cases hl : lookup (show List (κ × Tree κ ν d) from f) c with
      | none => rfl
      | some s => exact ih s (h.sub _ (mem_of_lookup_eq_some hl)) cs

/-- reading a full point returns the value stored in the content, or the default if the point is absent
    or holds an explicit default -/
theorem getPayload_lookup [DecidableEq ν] (dflt : ν) (d : Nat) (t : Tree κ ν d) (h : WF d t)
    (p : List κ) (hp : p.length = d) :
    getLeaf dflt d t p = (clookup (content dflt d t) p).getD dflt := by
  rw [getPayload_val dflt d t h p, val_eq_content dflt d t h p hp]

/-- reading a prefix `q` of a point returns the sub-tree holding exactly the values under `q` -/
theorem getPayload_prefix (dflt : ν) : ∀ (k d : Nat) (t : Tree κ ν (d + k)), WF (d + k) t →
    ∀ (q : List κ), q.length = k → ∀ r,
    val dflt d (getAt dflt k d t q) r = val dflt (d + k) t (q ++ r) := by
  intro k
  induction k with
  | zero => intro d t _ q hq r; cases q with
    | nil => rfl
    | cons _ _ => cases hq
  | succ k ih =>
    intro d t h q hq r
    cases q with
    | nil => cases hq
    | cons c cs =>
      show val dflt d (getAt dflt k d ((posLookup (show List (κ × Tree κ ν (d + k)) from t) c).getD
        (defaultTree dflt (d + k))) cs) r = val dflt (d + k + 1) t (c :: (cs ++ r))
      rw [posLookup_eq_lookup h.sorted, val_cons dflt (d + k) t c (cs ++ r)]
      exact ih d _ (wf_getD_lookup dflt h c) cs (Nat.succ.inj hq) r

/-- obtaining a reference creates the missing path, keeps the tree well-formed and disturbs
    no point -/
theorem getPayloadRef_spec (dflt : ν) (d : Nat) (t : Tree κ ν d) (h : WF d t) (p : List κ)
    (hp : p.length = d) :
    WF d (refAt dflt d t p) ∧ PathExists d (refAt dflt d t p) p ∧
    ∀ q, val dflt d (refAt dflt d t p) q = val dflt d t q :=
  ⟨refAt_wf dflt d t h p, refAt_path dflt d t h p hp, refAt_val dflt d t h p⟩

/-- the general fact behind `write_read` and `update_read`, on the abstract view -/
theorem updateAt_refAt_val (dflt : ν) (g : ν → ν) (d : Nat) (t : Tree κ ν d) (h : WF d t) (p q : List κ)
    (hp : p.length = d) (hq : q.length = d) :
    val dflt d (updateAt g d (refAt dflt d t p) p) q = if q = p then g (val dflt d t p) else val dflt d t q := by
  rw [updateAt_val dflt g d _ p q (refAt_path dflt d t h p hp) hp hq, refAt_val dflt d t h p, refAt_val dflt d t h p]

/-- assignment through the reference is visible to every later read and to no other point -/
theorem write_read (dflt : ν) (d : Nat) (t : Tree κ ν d) (h : WF d t) (p q : List κ)
    (hp : p.length = d) (hq : q.length = d) (v : ν) :
    getLeaf dflt d (updateAt (fun _ => v) d (refAt dflt d t p) p) q =
      if q = p then v else getLeaf dflt d t q := by
  rw [getPayload_val _ _ _ (updateAt_wf _ d _ (refAt_wf dflt d t h p) p), getPayload_val _ _ _ h,
    updateAt_refAt_val dflt _ d t h p q hp hq]

/-- in-place update through the reference: the point reads `g` of what it read, every other point is untouched -/
theorem update_read (dflt : ν) (g : ν → ν) (d : Nat) (t : Tree κ ν d) (h : WF d t) (p q : List κ)
    (hp : p.length = d) (hq : q.length = d) :
    getLeaf dflt d (updateAt g d (refAt dflt d t p) p) q =
      if q = p then g (getLeaf dflt d t p) else getLeaf dflt d t q := by
  rw [getPayload_val _ _ _ (updateAt_wf _ d _ (refAt_wf dflt d t h p) p), getPayload_val _ _ _ h,
    getPayload_val _ _ _ h, updateAt_refAt_val dflt g d t h p q hp hq]

/-- a legal search-start shortcut never changes the position found (hence no accessor's answer) -/
theorem startpos_irrelevant {π : Type} (f : Fib κ π) (hs : Sorted f) (sp : Nat) (c : κ)
    (hl : legalStart f sp c = true) : coord2posFrom f sp c = lowerBound f c := by
  refine coord2posFrom_of_le f ?_
  unfold legalStart at hl
  rcases Nat.eq_zero_or_pos sp with rfl | hpos
  · exact Nat.zero_le _
  · rw [show (sp == 0) = false from beq_false_of_ne (Nat.ne_of_gt hpos), Bool.false_or] at hl
    cases he : f[sp]? with
    | none => rw [he] at hl; cases hl
    | some e =>
      rw [he] at hl
      have hle : ¬ c < e.1 := by simpa using hl
      -- everything before the start position is below its coordinate, which is not above `c`
      refine le_lowerBound (Nat.le_of_lt (List.getElem?_eq_some_iff.1 he).1) (fun x hx => ?_)
      have h1 := sorted_take_lt hs he x hx
      rcases tri e.1 c with h | h | h
      · exact trans h1 h
      · exact h ▸ h1
      · exact absurd h hle

/-- position lookup finds exactly the stored coordinate's index -/
theorem getPosition_spec {π : Type} (f : Fib κ π) (hs : Sorted f) (c : κ) :
    (getPosition f c).isSome = (lookup f c).isSome ∧
    ∀ i, getPosition f c = some i → ∃ e, f[i]? = some e ∧ e.1 = c := by
  refine ⟨?_, fun i h => (getPosition_eq c i h).2⟩
  rw [← posLookup_eq_lookup hs]
  unfold getPosition posLookup
  cases f[lowerBound f c]? with
  | none => rfl
  | some e => by_cases h : e.1 = c <;> simp [h]

/-- the tree represents the map `m` on full points -/
def Abs (dflt : ν) (d : Nat) (t : Tree κ ν d) (m : List κ → ν) : Prop :=
  ∀ q, q.length = d → val dflt d t q = m q

/-- the write case of `step_refines` for any leaf update `g` (assignment and `+=` are two of them) -/
theorem update_refines (dflt : ν) (g : ν → ν) (d : Nat) (t : Tree κ ν d) (m : List κ → ν) (h : WF d t)
    (ha : Abs dflt d t m) (p : List κ) (hp : p.length = d) :
    WF d (updateAt g d (refAt dflt d t p) p) ∧
    Abs dflt d (updateAt g d (refAt dflt d t p) p) (fun q => if q = p then g (m p) else m q) ∧
    getLeaf dflt d (updateAt g d (refAt dflt d t p) p) p = g (m p) := by
  have hw := updateAt_wf g d _ (refAt_wf dflt d t h p) p
  have hv : Abs dflt d (updateAt g d (refAt dflt d t p) p) (fun q => if q = p then g (m p) else m q) := by
    intro q hq
    show _ = if q = p then g (m p) else m q
    rw [updateAt_refAt_val dflt g d t h p q hp hq, ha p hp, ha q hq]
  refine ⟨hw, hv, ?_⟩
  rw [getPayload_val _ _ _ hw, hv p hp]
  exact if_pos rfl

theorem step_refines [Add ν] (dflt : ν) (d : Nat) (t : Tree κ ν d) (m : List κ → ν)
    (op : PointOp κ ν) (h : WF d t) (ha : Abs dflt d t m) (hp : op.ok dflt d) :
    WF d (pointStep dflt d t op).1 ∧ Abs dflt d (pointStep dflt d t op).1 (specStep m op).1 ∧
    (pointStep dflt d t op).2 = (specStep m op).2 := by
  cases op with
  | get p => exact ⟨h, ha, congrArg some ((getPayload_val dflt d t h p).trans (ha p hp))⟩
  | ref p =>
    have hr : Abs dflt d (refAt dflt d t p) m := fun q hq => (refAt_val dflt d t h p q).trans (ha q hq)
    exact ⟨refAt_wf dflt d t h p, hr,
      congrArg some ((getPayload_val dflt d _ (refAt_wf dflt d t h p) p).trans (hr p hp))⟩
  | assign p v =>
    obtain ⟨h1, h2, h3⟩ := update_refines dflt (fun _ => v) d t m h ha p hp
    exact ⟨h1, h2, congrArg some h3⟩
  | iadd p v =>
    obtain ⟨h1, h2, h3⟩ := update_refines dflt (fun x => x + v) d t m h ha p hp
    exact ⟨h1, h2, congrArg some h3⟩
  | scale p g =>
    obtain ⟨hp, hg⟩ : p.length ≤ d ∧ g dflt = dflt := hp
    refine ⟨updateUnder_wf g d _ (refAt_wf dflt d t h p) p, fun q hq => ?_, rfl⟩
    show val dflt d (updateUnder g d (refAt dflt d t p) p) q = if p <+: q then g (m q) else m q
    rw [updateUnder_val dflt g hg d _ p q hp, refAt_val dflt d t h p, ha q hq]

/-- **C03, histories.**  Any interleaving of reads, references, assignments and in-place additions at full points and
    of in-place scalings through the handle of any partial point refines the abstract map machine: the outputs are
    those of the map, and the tree stays well-formed. -/
theorem run_refines_map [Add ν] (dflt : ν) (d : Nat) : ∀ (ops : List (PointOp κ ν)) (t : Tree κ ν d)
    (m : List κ → ν), WF d t → Abs dflt d t m → (∀ op ∈ ops, op.ok dflt d) →
    (pointRun dflt d t ops).2 = specRun m ops ∧ WF d (pointRun dflt d t ops).1 := by
  intro ops
  induction ops with
  | nil => exact fun _ _ h _ _ => ⟨rfl, h⟩
  | cons op ops ih =>
    intro t m h ha hp
    obtain ⟨h1, h2, h3⟩ := step_refines dflt d t m op h ha (hp op (List.mem_cons_self ..))
    obtain ⟨r1, r2⟩ := ih _ _ h1 h2 (fun o ho => hp o (List.mem_cons_of_mem _ ho))
    refine ⟨?_, r2⟩
    show (pointStep dflt d t op).2 :: (pointRun dflt d (pointStep dflt d t op).1 ops).2 =
      (specStep m op).2 :: specRun (specStep m op).1 ops
    rw [h3, r1]

end

section
variable {ν : Type} [DecidableEq ν]

/-- the canonical copy `<<=` stores reads like its source -/
theorem val_nonEmpty (dflt : ν) (d : Nat) (x : Tree Int ν d) (hx : WF d x) (q : List Int) (hq : q.length = d) :
    val dflt d (nonEmpty dflt d x) q = val dflt d x q := by
  rw [val_eq_content dflt d _ (nonEmpty_wf dflt d x hx) q hq, val_eq_content dflt d x hx q hq, nonEmpty_content]

/-- `h = t.getPayloadRef(*p); h <<= x` at a stored partial point `p`: every point under `p` then reads
    what `x` holds there (the default where `x` holds nothing), every other point reads what it read
    before, and the tree stays well-formed -/
theorem assign_partial_read (dflt : ν) (d : Nat) (t : Tree Int ν (d + 1)) (h : WF (d + 1) t)
    (p : List Int) (d' : Nat) (s : Tree Int ν (d' + 1)) (hl : locate d t p = some ⟨d', s⟩)
    (g : TreeArg ν) (x : Tree Int ν (d' + 1)) (hg : g.get (d' + 1) = some x) (hx : WF (d' + 1) x)
    (q : List Int) (hq : q.length = d + 1) :
    val dflt (d + 1) (mstep dflt d t (.assignF p g)).1 q =
      if p <+: q then val dflt (d' + 1) x (q.drop p.length) else val dflt (d + 1) t q := by
  have hF : (fiberStep dflt (.assignF p g) d' s).1 = nonEmpty dflt (d' + 1) x := by
    show (match g.get (d' + 1) with
      | some x => (nonEmpty dflt (d' + 1) x, Outcome.ok)
      | none => (s, Outcome.rejectedOther)).1 = _
    rw [hg]
  show val dflt (d + 1) (atPath (fiberStep dflt (.assignF p g)) d t p).1 q = _
  rw [val_atPath dflt _ d t h p d' s hl q, hF]
  split
  · refine val_nonEmpty dflt (d' + 1) x hx _ ?_
    rw [List.length_drop, hq, locate_depth d t p d' s hl]; omega
  · rfl

/-- the reference itself makes `p` a stored partial point without changing any read, so the two
    steps together behave like assignment of a block of the abstract map -/
theorem assign_partial_after_ref (dflt : ν) (d : Nat) (t : Tree Int ν (d + 1)) (h : WF (d + 1) t)
    (p : List Int) (hp : p.length ≤ d) :
    ∃ (d' : Nat) (s : Tree Int ν (d' + 1)), locate d (refAt dflt (d + 1) t p) p = some ⟨d', s⟩ ∧
      WF (d + 1) (refAt dflt (d + 1) t p) ∧ ∀ q, val dflt (d + 1) (refAt dflt (d + 1) t p) q = val dflt (d + 1) t q := by
  obtain ⟨d', s, hs⟩ := locate_refAt dflt d t h p hp
  exact ⟨d', s, hs, refAt_wf dflt (d + 1) t h p, refAt_val dflt (d + 1) t h p⟩

end

section
variable {κ ν : Type} [LT κ] [DecidableRel (α := κ) (· < ·)] [DecidableEq κ] [StrictTotal κ]

/-- `h = t.getPayloadRef(*p); h *= k` at a partial point `p` (modelled as `updateUnder` after `refAt`; `g` is
    `x ↦ if x = dflt then x else x * k`, which is what the library's walk over non-empty elements computes):
    every point below `p` then reads `g` of what it read before, every other point reads what it read before, the
    tree stays well-formed — the in-place form changes the abstract map block-wise and nothing else.  Handles held
    from earlier `getPayloadRef` calls keep denoting their points because no element is replaced (the model
    updates leaves where they are; the correspondence check compares object identity on the implementation) -/
theorem scale_partial_read (dflt : ν) (g : ν → ν) (hg : g dflt = dflt) (d : Nat) (t : Tree κ ν d) (h : WF d t)
    (p : List κ) (hp : p.length ≤ d) (q : List κ) :
    WF d (updateUnder g d (refAt dflt d t p) p) ∧
    val dflt d (updateUnder g d (refAt dflt d t p) p) q =
      if p <+: q then g (val dflt d t q) else val dflt d t q := by
  refine ⟨updateUnder_wf g d _ (refAt_wf dflt d t h p) p, ?_⟩
  rw [updateUnder_val dflt g hg d _ p q hp, refAt_val dflt d t h p]

end

section
variable {κ ν : Type} [LT κ] [DecidableRel (α := κ) (· < ·)] [DecidableEq κ] [StrictTotal κ] [DecidableEq ν]

/-- `h = t.getPayloadRef(*p)` for a prefix `p` one short of a full point (a leaf fiber), then `h += v`: the library
    walks the coordinates `cs` of the rank's extent with `iterShapeRef` and adds to every one of them.  In the model
    this is the history `ref p; iadd (p ++ [c]) v` for `c ∈ cs`, so it refines the abstract map like any other history:
    every point `p ++ [c]` then reads its old value plus `v` (the default plus `v` where nothing was stored), every
    other point is untouched. -/
theorem iadd_scalar_leaf_fiber [Add ν] (dflt : ν) (d : Nat) (t : Tree κ ν d) (m : List κ → ν) (h : WF d t)
    (ha : Abs dflt d t m) (p : List κ) (hp : p.length + 1 = d) (cs : List κ) (v : ν) :
    let ops := cs.map (fun c => PointOp.iadd (p ++ [c]) v)
    (pointRun dflt d (refAt dflt d t p) ops).2 = specRun m ops ∧ WF d (pointRun dflt d (refAt dflt d t p) ops).1 := by
  intro ops
  refine run_refines_map dflt d ops (refAt dflt d t p) m (refAt_wf dflt d t h p)
    (fun q hq => by rw [refAt_val dflt d t h p]; exact ha q hq) ?_
  intro op hop
  obtain ⟨c, _, rfl⟩ := List.mem_map.1 hop
  show (p ++ [c]).length = d
  simp; omega

end

section
private def exT : Tree Int Int 2 := [(0, [(1, (5 : Int)), (2, (0 : Int))]), (3, []), (4, [(0, (7 : Int))])]
example : WF 2 exT := (wfB_iff 2 exT).1 (by decide)
example : Abs 0 2 exT (val 0 2 exT) := fun _ _ => rfl
#guard getLeaf 0 2 exT [0, 1] == 5 && getLeaf 0 2 exT [0, 2] == 0 && getLeaf 0 2 exT [3, 1] == 0 && getLeaf 0 2 exT [9, 9] == 0
#guard (pointRun 0 2 exT [.get [3, 1], .assign [3, 1] 4, .iadd [9, 0] 2, .get [3, 1], .get [9, 0], .ref [1, 1], .get [0, 1]]).2 == [some 0, some 4, some 2, some 4, some 2, some 0, some 5]
-- a history with a scaling of row 0 through its handle between reads: (0,1) reads 5, then 15; row 4 keeps 7
#guard (pointRun 0 2 exT [.get [0, 1], .scale [0] (fun x => if x = 0 then x else x * 3), .get [0, 1], .get [0, 2], .get [4, 0]]).2
         == [some 5, none, some 15, some 0, some 7]
-- partial assignment: row 3 := a copy of [(1, 9), (2, 0)]; (3,1) reads 9, (3,2) the default, row 0 is untouched
private def exG : TreeArg Int := ⟨fun k => match k with | 1 => some ([(1, (9 : Int)), (2, (0 : Int))] : Tree Int Int 1) | _ => none⟩
#guard (locate 1 exT [3]).isSome
#guard let t' := (mstep 0 1 exT (.assignF [3] exG)).1
       getLeaf 0 2 t' [3, 1] == 9 && getLeaf 0 2 t' [3, 2] == 0 && getLeaf 0 2 t' [0, 1] == 5 && wfB 2 t'
-- row 0 scaled in place by 3 through its handle (default 0): (0,1) reads 15, the explicit default stays, row 4 untouched
#guard let t' := updateUnder (fun x => if x = 0 then x else x * 3) 2 (refAt (0 : Int) 2 exT [0]) [0]
       getLeaf 0 2 t' [0, 1] == 15 && getLeaf 0 2 t' [0, 2] == 0 && getLeaf 0 2 t' [4, 0] == 7 && wfB 2 t'
#guard legalStart ([(0, 1), (2, 1), (5, 1)] : Fib Int Int) 1 4 && coord2posFrom ([(0, 1), (2, 1), (5, 1)] : Fib Int Int) 1 4 == 2
end
end Ft
