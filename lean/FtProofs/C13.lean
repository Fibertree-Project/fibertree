/-
  C13 — conversions between representations are lossless: content, canonical form and shape of
  `fromUncompressed`; `uncompress (fromUncompressed n) (dims n) = n` (fiber and tensor route,
  all-default nests included); dictionary and YAML round trips (the YAML text layer abstracted
  as the identity); `fromRandom` as a function of the recorded draws.
  Helper lemmas live in FtProofs/Lemmas/Convert.lean.
-/
import FtProofs.Lemmas.Convert
set_option linter.unusedSectionVars false
namespace Ft

section FromU
variable {ν : Type} [DecidableEq ν]

/-- The tree built from a nest stores exactly the nest's non-default entries, at their
    index points, in row-major order (any nest, any default, any depth). -/
theorem fromUncompressed_content (dflt : ν) (d : Nat) (n : Nest ν (d + 1)) :
    content dflt (d + 1) (fromUncompressed dflt d n) = nestContent dflt (d + 1) n := by
  rw [fromUncompressed_eq_items]
  exact content_items_keep dflt d n (contentKept dflt d)

/-- … and it is in canonical form: coordinates strictly increasing at every level, no
    explicit default and no empty sub-fiber stored anywhere. -/
theorem fromUncompressed_canonical (dflt : ν) (d : Nat) (n : Nest ν (d + 1)) :
    WF (d + 1) (fromUncompressed dflt d n) ∧ noEmptyB dflt (d + 1) (fromUncompressed dflt d n) = true := by
  rw [fromUncompressed_eq_items]
  exact (items_keep_canonical dflt d n (keep_good dflt d)).symm

/-- … and these three facts determine the result: ANY tree that is sorted, stores no empty
    element and has the nest's non-default entries as content IS the model's tree.  (So
    evaluating the specification on the implementation's tree and comparing that tree with
    the model's are the same test.) -/
theorem fromUncompressed_complete (dflt : ν) (d : Nat) (n : Nest ν (d + 1)) (t : Tree Nat ν (d + 1))
    (hw : WF (d + 1) t) (hn : noEmptyB dflt (d + 1) t = true)
    (hc : content dflt (d + 1) t = nestContent dflt (d + 1) n) :
    t = fromUncompressed dflt d n := by
  obtain ⟨hw', hn'⟩ := fromUncompressed_canonical dflt d n
  exact canonical_unique dflt (d + 1) t (fromUncompressed dflt d n) hw hw' hn hn'
    (hc.trans (fromUncompressed_content dflt d n).symm)

/-- The result is empty exactly for the all-default nests. -/
theorem fromUncompressed_empty_iff (dflt : ν) (d : Nat) (n : Nest ν (d + 1)) :
    asList (fromUncompressed dflt d n) = [] ↔ allDefault dflt (d + 1) n = true := by
  rw [fromUncompressed_eq_items, ← makeFiber_eq_none_iff]
  exact (makeFiber_eq_none dflt d n).symm

/-- `Tensor.fromUncompressed`: the shape computed by `_calc_shape` (as written) is the
    nest's dimensions, for every rectangular nest with positive dimensions — all-default
    ones included. -/
theorem fromUncompressed_tensor_shape (d : Nat) (dims : List Nat) (n : Nest ν (d + 1))
    (hr : rectB (d + 1) dims n = true) (hpos : ∀ k ∈ dims, 0 < k) :
    calcShape d n = dims := by
  induction d generalizing dims with
  | zero =>
    obtain ⟨m, ns, rfl, hlen, hall⟩ := rect_parts hr
    have hne : asNestList n ≠ [] :=
      List.ne_nil_of_length_pos (by rw [hlen]; exact hpos m (List.mem_cons_self ..))
    obtain ⟨x, hx⟩ := List.exists_mem_of_ne_nil _ hne
    have hns := rect_zero_dims (hall x hx)
    subst hns
    show [List.length (asNestList n)] = [m]
    rw [hlen]
  | succ d ih =>
    obtain ⟨m, ns, rfl, hlen, hall⟩ := rect_parts hr
    have hne : asNestList n ≠ [] :=
      List.ne_nil_of_length_pos (by rw [hlen]; exact hpos m (List.mem_cons_self ..))
    show List.length (asNestList n) :: calcShapeRest (calcShape d) (asNestList n) = m :: ns
    rw [hlen, calcShapeRest_const (asNestList n) hne
      (fun x hx => ih ns x (hall x hx) (fun k hk => hpos k (List.mem_cons_of_mem _ hk)))]

/-- `Fiber.fromUncompressed(n).getShape()` is the nest's dimensions PROVIDED the nest has a
    non-default entry or has depth 1.  (Gap: for an all-default nest of depth ≥ 2 the code
    returns `Fiber([], [], shape=len(n))`, whose shape is `[len(n)]` — see
    `fromUncompressed_fiber_shape_allDefault`.) -/
theorem fromUncompressed_fiber_shape_partial (dflt : ν) (d : Nat) (dims : List Nat) (n : Nest ν (d + 1))
    (hr : rectB (d + 1) dims n = true) (hpos : ∀ k ∈ dims, 0 < k)
    (hne : allDefault dflt (d + 1) n = false ∨ d = 0) :
    fiberShape dflt d n = dims := by
  unfold fiberShape
  cases h : makeFiber dflt d n with
  | some t =>
    simp only [Option.isSome_some, if_true]
    exact fiberShapeSome_eq_dims dflt d dims n hr (by rw [h]; rfl)
  | none =>
    have hall := (makeFiber_eq_none_iff dflt d n).1 h
    rcases hne with hne | hd
    · rw [hall] at hne; cases hne
    · subst hd
      simp only [Option.isSome_none, Bool.false_eq_true, if_false]
      exact fromUncompressed_tensor_shape 0 dims n hr hpos

/-- The excluded class really fails: an all-default nest of depth ≥ 2 gets the
    one-element shape `[len(n)]`, which is not its dimension list. -/
theorem fromUncompressed_fiber_shape_allDefault (dflt : ν) (d : Nat) (n : Nest ν (d + 2))
    (hall : allDefault dflt (d + 2) n = true) :
    fiberShape dflt (d + 1) n = [List.length (asNestList n)] := by
  unfold fiberShape
  rw [(makeFiber_eq_none_iff dflt (d + 1) n).2 hall]
  rfl

end FromU

section Unc
variable {ν : Type} [DecidableEq ν]

/-- Round trip: for EVERY rectangular nest with positive dimensions — all-default ones
    included — uncompressing the tree built from it to the nest's dimensions returns the nest,
    both for `Fiber.fromUncompressed` (`owned = false`) and through
    `Tensor.fromUncompressed(...).getRoot()` (`owned = true`).  (Fixes cc544e6, ecc4474.) -/
theorem uncompress_fromUncompressed (owned : Bool) (dflt : ν) (d : Nat) (dims : List Nat) (n : Nest ν (d + 1))
    (hr : rectB (d + 1) dims n = true) (hpos : ∀ k ∈ dims, 0 < k) :
    uncompress owned dflt d dims (fromUncompressed dflt d n) = some n := by
  rw [fromUncompressed_eq_items]
  exact uncompress_items owned dflt d dims n hr hpos (uncAt_keep owned dflt d)

end Unc

section Yaml
variable {κ ν : Type}

/-- `dict2fiber(fiber2dict(t))` rebuilds exactly the stored tree — every depth (0 = a
    rank-0 payload), every coordinate type (tuples included), explicit defaults and empty
    sub-fibers included. -/
theorem dict_roundtrip (d : Nat) (t : Tree κ ν d) : dict2fiber d (fiber2dict d t) = some t := by
  induction d with
  | zero => rfl
  | succ d ih =>
    rw [fiber2dict_succ, dict2fiber_succ,
      mapMOpt_map_some (dict2fiber d) (fun e => fiber2dict d e.2) (fun e => e.2) (asList t) (fun x _ => ih x.2)]
    simp only [List.length_map, if_true]
    exact congrArg some (List.zip_of_prod rfl rfl).symm

section
variable [LT κ] [DecidableRel (α := κ) (· < ·)] [DecidableEq κ] [DecidableEq ν]

/-- … and the rebuilt tree is `==` to the original, in both directions, for every default:
    `dict2fiber(dict, default=x)` creates the fibers with the default it is given, the
    original's. -/
theorem dict_roundtrip_equal (dflt : ν) (d : Nat) (t : Tree κ ν d) :
    ∃ r, dict2fiber d (fiber2dict d t) = some r ∧ eqB dflt dflt d r t = true ∧ eqB dflt dflt d t r = true :=
  ⟨t, dict_roundtrip d t, eqB_refl dflt d t, eqB_refl dflt d t⟩

/-- Tensor dump → (abstracted) YAML text → `Tensor.fromYAMLfile`, for EVERY tensor — any
    rank (0 included), any coordinate type (tuples of flattened ranks included), any name, any
    default: the reloaded tensor has the same rank ids, shape, name and stored tree, for rank
    ≥ 1 the same default, and it compares `==` with the original in both directions, each
    side under its own default. -/
theorem tensor_yaml_roundtrip (zero : ν) {d : Nat} (t : TRep κ ν d) :
    ∃ r, tensorYamlRoundtrip zero t = some r ∧ r.rankIds = t.rankIds ∧ r.shape = t.shape ∧
         r.name = t.name ∧ r.root = t.root ∧ (d ≠ 0 → r.dflt = t.dflt) ∧
         tensorEqB r.dflt t.dflt r t = true ∧ tensorEqB t.dflt r.dflt t r = true := by
  refine ⟨{ rankIds := t.rankIds, shape := t.shape, name := t.name, root := t.root,
            dflt := (if d = 0 then none else some t.dflt).getD zero }, ?_, rfl, rfl, rfl, rfl, ?_, ?_, ?_⟩
  · unfold tensorYamlRoundtrip yamlText tensorLoad tensorDump
    simp only [dict_roundtrip]
  · intro hd; simp [hd]
  · cases d with
    | zero => simp [tensorEqB, eqB]; rfl
    | succ d => simp [tensorEqB, eqB_refl]
  · cases d with
    | zero => simp [tensorEqB, eqB]; rfl
    | succ d => simp [tensorEqB, eqB_refl]

/-- whatever is loaded back carries the original's name, rank ids and shape -/
theorem tensor_yaml_name_kept (zero : ν) {d : Nat} (t : TRep κ ν d) (r : TRep κ ν d)
    (h : tensorYamlRoundtrip zero t = some r) :
    r.name = t.name ∧ r.rankIds = t.rankIds ∧ r.shape = t.shape := by
  unfold tensorYamlRoundtrip yamlText tensorLoad tensorDump at h
  simp only [dict_roundtrip] at h
  cases h
  exact ⟨rfl, rfl, rfl⟩

/-- The deprecated loader `Tensor(yamlfile=…)` gives what `Tensor.fromYAMLfile` gives, for every
    rank, 0 included (so `tensor_yaml_roundtrip` applies to it as well). -/
theorem tensor_yaml_ctor_roundtrip (zero : ν) {d : Nat} (t : TRep κ ν d) :
    tensorCtorRoundtrip zero t = tensorYamlRoundtrip zero t ∧ (tensorCtorRoundtrip zero t).isSome = true := by
  obtain ⟨r, h, _⟩ := tensor_yaml_roundtrip zero t
  have : tensorCtorRoundtrip zero t = tensorYamlRoundtrip zero t := rfl
  exact ⟨this, by rw [this, h]; rfl⟩

/-- `Fiber.dump` → text → `Fiber.fromYAMLfile(file, default=dflt)`: the stored tree comes back
    and is `==` the original (every fiber of the result has the default `dflt`), for every
    fiber, tuple coordinates included. -/
theorem fiber_yaml_roundtrip (dflt : ν) (d : Nat) (t : Tree κ ν (d + 1)) :
    fiberYamlRoundtrip d t = some t ∧ eqB dflt dflt (d + 1) t t = true := by
  unfold fiberYamlRoundtrip
  simp only [dict_roundtrip, eqB_refl, and_self]

end

/-- the fiber `Fiber([2], [0])` -/
def witnessStoredZero : Tree Nat Int 1 := ([(2, (0 : Int))] : List (Nat × Int))

/-- why the default has to travel with the dictionary / YAML form: under different defaults
    (7 for the original, 0 for a copy rebuilt without it) a fiber that stores a 0 is NOT `==`
    its own copy, in either direction. -/
theorem default_matters_witness :
    eqB (7 : Int) 0 1 witnessStoredZero witnessStoredZero = false ∧
    eqB (0 : Int) 7 1 witnessStoredZero witnessStoredZero = false := by
  let z : Tree Nat Int 0 := (0 : Int)
  have h7 : present (7 : Int) 0 witnessStoredZero = ([(2, z)] : Fib Nat (Tree Nat Int 0)) := rfl
  have h0 : present (0 : Int) 0 witnessStoredZero = ([] : Fib Nat (Tree Nat Int 0)) := rfl
  have e1 : orMerge ([(2, z)] : Fib Nat (Tree Nat Int 0)) ([] : Fib Nat (Tree Nat Int 0)) =
      [(2, (Mask.A, some z, none))] := by rw [orMerge]; rfl
  have e2 : orMerge ([] : Fib Nat (Tree Nat Int 0)) ([(2, z)] : Fib Nat (Tree Nat Int 0)) =
      [(2, (Mask.B, none, some z))] := by rw [orMerge]; rfl
  constructor
  · rw [eqB_succ, h7, h0, e1]; rfl
  · rw [eqB_succ, h7, h0, e2]; rfl

end Yaml

section Random

/-- In shape and sorted, from one induction: the stored coordinates are a sub-sequence of
    `range(shape[0])` and every stored sub-tree is the result of a run on the rest of the shape. -/
theorem random_in_shape_sorted (dflt : Int) : ∀ (d : Nat) (shape dens : List Nat) (s s' : Draws)
    (t : Tree Nat Int (d + 1)), fromRandom dflt d shape dens s = some (t, s') →
    inShapeB (d + 1) shape t = true ∧ WF (d + 1) t := by
  intro d
  induction d with
  | zero =>
    intro shape dens s s' t h
    obtain ⟨n, ns, q, qs, rfl, rfl⟩ := fromRandom_some h
    rw [fromRandom_zero] at h
    refine ⟨List.all_eq_true.2 fun e he => ?_, sorted_of_randLoop h, fun _ _ => trivial⟩
    simp [List.mem_range.1 (randLoop_mem _ _ _ _ h e he).1, inShapeB]
  | succ d ih =>
    intro shape dens s s' t h
    obtain ⟨n, ns, q, qs, rfl, rfl⟩ := fromRandom_some h
    rw [fromRandom_succ] at h
    have hsub : ∀ e ∈ asList t, e.1 < n ∧ inShapeB (d + 1) ns e.2 = true ∧ WF (d + 1) e.2 := by
      intro e he
      obtain ⟨hmem, s1, s2, hb⟩ := randLoop_mem _ _ _ _ h e he
      obtain ⟨u, us', _, hcase⟩ := randUpperBody_some hb
      rcases hcase with ⟨_, t', ht', hp⟩ | ⟨_, _, hp, _⟩
      · split at hp
        · cases hp
        · cases hp
          exact ⟨List.mem_range.1 hmem, ih ns qs _ s2 _ ht'⟩
      · cases hp
    refine ⟨List.all_eq_true.2 fun e he => ?_, sorted_of_randLoop h, fun e he => (hsub e he).2.2⟩
    simp [(hsub e he).1, (hsub e he).2.1]

/-- Whatever the draws, every coordinate the random tree stores lies inside the requested
    shape, at every level. -/
theorem random_in_shape (dflt : Int) : ∀ (d : Nat) (shape dens : List Nat) (s s' : Draws) (t : Tree Nat Int (d + 1)),
    fromRandom dflt d shape dens s = some (t, s') → inShapeB (d + 1) shape t = true :=
  fun d shape dens s s' t h => (random_in_shape_sorted dflt d shape dens s s' t h).1

/-- The stored coordinates are strictly increasing at every level (sub-sequence of `range`). -/
theorem random_sorted (dflt : Int) : ∀ (d : Nat) (shape dens : List Nat) (s s' : Draws) (t : Tree Nat Int (d + 1)),
    fromRandom dflt d shape dens s = some (t, s') → WF (d + 1) t :=
  fun d shape dens s s' t h => (random_in_shape_sorted dflt d shape dens s s' t h).2

/-- At density 1 the shape is filled completely: if every uniform draw is below every
    density (`random() < 1.0 ≤ density`) and no integer draw equals the default (guaranteed
    when the default lies outside `[1, interval]`), the points holding a value are ALL points of
    the shape, in row-major order. -/
theorem random_full_at_density_one (dflt : Int) (m : Nat) : ∀ (d : Nat) (shape dens : List Nat) (s s' : Draws)
    (t : Tree Nat Int (d + 1)), shape.length = d + 1 → (∀ q ∈ dens, m ≤ q) → GoodDraws m dflt s →
    fromRandom dflt d shape dens s = some (t, s') →
    GoodDraws m dflt s' ∧ points dflt (d + 1) t = allPoints shape := by
  intro d
  induction d with
  | zero =>
    intro shape dens s s' t hlen hq hI h
    obtain ⟨n, ns, q, qs, rfl, rfl⟩ := fromRandom_some h
    rw [fromRandom_zero] at h
    have hns : ns = [] := List.eq_nil_of_length_eq_zero (by simpa using hlen)
    subst hns
    rw [points_succ]
    refine randLoop_full (GoodDraws m dflt) (fun (v : Int) => points (κ := Nat) dflt 0 v) [[]] ?_
      (List.range n) s s' (asList t) hI h
    intro s0 p s1 hI0 hb
    obtain ⟨hI1, v, rfl, hv⟩ := randLeafBody_good (hq q (List.mem_cons_self ..)) s0 p s1 hI0 hb
    refine ⟨hI1, ?_⟩
    show List.map (·.1) (if v = dflt then [] else [(([] : List Nat), v)]) = [[]]
    rw [if_neg hv]; rfl
  | succ d ih =>
    intro shape dens s s' t hlen hq hI h
    obtain ⟨n, ns, q, qs, rfl, rfl⟩ := fromRandom_some h
    rw [fromRandom_succ] at h
    rw [points_succ]
    refine randLoop_full (GoodDraws m dflt) (fun (t' : Tree Nat Int (d + 1)) => points dflt (d + 1) t')
      (allPoints ns) ?_ (List.range n) s s' (asList t) hI h
    intro s0 p s1 hI0 hb
    obtain ⟨u, us', hus, hcase⟩ := randUpperBody_some hb
    have hu : u < q :=
      Nat.lt_of_lt_of_le (hI0.1 u (hus ▸ List.mem_cons_self ..)) (hq q (List.mem_cons_self ..))
    rcases hcase with ⟨_, t', ht', rfl⟩ | ⟨hnu, _, _, _⟩
    · have hI0' : GoodDraws m dflt { s0 with us := us' } :=
        ⟨fun x hx => hI0.1 x (hus ▸ List.mem_cons_of_mem _ hx), hI0.2⟩
      obtain ⟨hI1, hpts⟩ := ih ns qs _ s1 t' (by simpa using hlen)
        (fun q' hq' => hq q' (List.mem_cons_of_mem _ hq')) hI0' ht'
      refine ⟨hI1, ?_⟩
      by_cases hemp : isEmpty dflt (d + 1) t' = true
      · rw [if_pos hemp]
        show allPoints ns = []
        rw [← hpts]
        unfold points
        rw [content_eq_nil_of_isEmpty hemp]; rfl
      · rw [if_neg hemp]; exact hpts
    · exact absurd hu hnu

/-- Determinism: the model is, by construction, a function of (shape, density, default,
    draws); moreover the result depends only on the draws actually consumed — appending
    further draws to the stream changes neither the tree nor what is consumed.  (That the same
    seed yields the same draws is a fact about Python's `random`, observed by the harness.) -/
theorem random_deterministic (dflt : Int) (eu : List Nat) (ei : List Int) : ∀ (d : Nat) (shape dens : List Nat)
    (s s' : Draws) (t : Tree Nat Int (d + 1)),
    fromRandom dflt d shape dens s = some (t, s') →
    fromRandom dflt d shape dens (s.extend eu ei) = some (t, s'.extend eu ei) := by
  intro d
  induction d with
  | zero =>
    intro shape dens s s' t h
    obtain ⟨n, ns, q, qs, rfl, rfl⟩ := fromRandom_some h
    rw [fromRandom_zero] at h ⊢
    exact randLoop_extend eu ei (randLeafBody_extend dflt q eu ei) _ _ _ _ h
  | succ d ih =>
    intro shape dens s s' t h
    obtain ⟨n, ns, q, qs, rfl, rfl⟩ := fromRandom_some h
    rw [fromRandom_succ] at h ⊢
    refine randLoop_extend eu ei ?_ _ _ _ _ h
    intro s0 p s1 hb
    obtain ⟨u, us', hus, hcase⟩ := randUpperBody_some hb
    obtain ⟨us0, is0⟩ := s0
    simp only at hus
    subst hus
    rcases hcase with ⟨hu, t', ht', hp⟩ | ⟨hnu, hd, hp, hs1⟩
    · have := ih ns qs _ s1 t' ht'
      unfold randUpperBody
      simp only [Draws.extend, List.cons_append, hu, if_true] at this ⊢
      rw [this, hp]
    · unfold randUpperBody
      subst hp; subst hs1
      simp only [Draws.extend, List.cons_append, hnu, if_false, hd, if_true]

end Random
/-! ## non-vacuity: the hypotheses of every theorem above are satisfiable by non-trivial values -/

section NonVacuity

/-- `[[1, 0], [0, 0]]` -/
def exNest : Nest Int 2 := ([[1, 0], [0, 0]] : List (List Int))
/-- `[[0, 0], [0, 0]]` -/
def exZero : Nest Int 2 := ([[0, 0], [0, 0]] : List (List Int))
/-- `[7, 0, 1]` with default 7 -/
def exLeaf : Nest Int 1 := ([7, 0, 1] : List Int)

example : content (0 : Int) 2 (fromUncompressed 0 1 exNest) = [([0, 0], 1)] := by
  rw [fromUncompressed_content]; decide
example : content (7 : Int) 1 (fromUncompressed 7 0 exLeaf) = [([1], 0), ([2], 1)] := by
  rw [fromUncompressed_content]; decide
-- completeness: a hand-written tree satisfying the three facts
def exTreeN : Tree Nat Int 2 := ([(0, ([(0, (1 : Int))] : List (Nat × Int)))] : List (Nat × List (Nat × Int)))
example : exTreeN = fromUncompressed 0 1 exNest :=
  fromUncompressed_complete 0 1 exNest exTreeN ((cv_wfB_iff 2 exTreeN).1 (by decide)) (by decide) (by decide)
-- shape theorems: rectangular, positive dimensions, (not) all default
example : rectB 2 [2, 2] exNest = true ∧ (∀ k ∈ [2, 2], 0 < k) ∧ allDefault (0 : Int) 2 exNest = false :=
  ⟨by decide, by decide, by decide⟩
example : calcShape 1 exZero = [2, 2] := fromUncompressed_tensor_shape 1 [2, 2] exZero (by decide) (by decide)
example : fiberShape (0 : Int) 1 exNest = [2, 2] :=
  fromUncompressed_fiber_shape_partial 0 1 [2, 2] exNest (by decide) (by decide) (Or.inl (by decide))
example : fiberShape (0 : Int) 1 exZero = [2] :=
  fromUncompressed_fiber_shape_allDefault 0 0 exZero (by decide)
example : uncompress false (0 : Int) 1 [2, 2] (fromUncompressed 0 1 exNest) = some exNest :=
  uncompress_fromUncompressed false 0 1 [2, 2] exNest (by decide) (by decide)
example : uncompress false (0 : Int) 1 [2, 2] (fromUncompressed 0 1 exZero) = some exZero :=
  uncompress_fromUncompressed false 0 1 [2, 2] exZero (by decide) (by decide)
example : uncompress true (0 : Int) 1 [2, 2] (fromUncompressed 0 1 exZero) = some exZero :=
  uncompress_fromUncompressed true 0 1 [2, 2] exZero (by decide) (by decide)
example : uncompress true (7 : Int) 0 [3] (fromUncompressed 7 0 exLeaf) = some exLeaf :=
  uncompress_fromUncompressed true 7 0 [3] exLeaf (by decide) (by decide)

-- a rank-2 tensor with an explicit default and an empty sub-fiber, default 7
def cv_exTree : Tree YCoord Int 2 :=
  ([(YCoord.int 0, ([(YCoord.int 1, (0 : Int)), (YCoord.int 2, 5)] : List (YCoord × Int))),
    (YCoord.int 3, ([] : List (YCoord × Int)))] : List (YCoord × List (YCoord × Int)))
def exRep : TRep YCoord Int 2 :=
  { rankIds := ["A", "B"], shape := [YCoord.int 4, YCoord.int 3], name := "T", root := cv_exTree, dflt := 7 }
example : ∃ r, tensorYamlRoundtrip (0 : Int) exRep = some r ∧ r.root = cv_exTree ∧ r.name = "T" ∧ r.dflt = 7 := by
  obtain ⟨r, h, _, _, hname, hroot, hd, _⟩ := tensor_yaml_roundtrip (0 : Int) exRep
  exact ⟨r, h, hroot, hname, hd (by decide)⟩
example : (tensorCtorRoundtrip (0 : Int) exRep).isSome = true := (tensor_yaml_ctor_roundtrip (0 : Int) exRep).2
/-- a flattened tensor: tuple coordinates and a tuple shape -/
def exTuple : TRep YCoord Int 1 :=
  { rankIds := ["[\"A\", \"B\"]"], shape := [YCoord.tup [2, 2]], name := "", dflt := 0,
    root := ([(YCoord.tup [0, 0], (1 : Int))] : List (YCoord × Int)) }
example : ∃ r, tensorYamlRoundtrip (0 : Int) exTuple = some r ∧ r.root = exTuple.root ∧ r.shape = [YCoord.tup [2, 2]] := by
  obtain ⟨r, h, _, hshape, _, hroot, _⟩ := tensor_yaml_roundtrip (0 : Int) exTuple
  exact ⟨r, h, hroot, hshape⟩

def exDraws : Draws := { us := [0, 1, 0], is := [3, 4, 5] }
example : GoodDraws 2 0 exDraws := ⟨by decide, by decide⟩
example : (fromRandom 0 1 [1, 2] [2, 2] exDraws).isSome = true := by decide
example : ∀ t s', fromRandom 0 1 [1, 2] [2, 2] exDraws = some (t, s') → points 0 2 t = [[0, 0], [0, 1]] := by
  intro t s' h
  exact (random_full_at_density_one 0 2 1 [1, 2] [2, 2] exDraws s' t rfl (by decide) ⟨by decide, by decide⟩ h).2

end NonVacuity
end Ft
