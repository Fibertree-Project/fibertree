/-
  C19 — intersection and merge cost models count what the hardware idiom would do.
  Property theorems; helper lemmas live in FtProofs/Lemmas/{Intersect,Compute,MergeInf,MergeEmit}.lean.

  Vocabulary (FtModel/Intersect.lean): a `FiberIn` is one intersected fiber pair as the loop
  nest presents it (iteration stamps `oi` and coordinates `pre` of the outer loop ranks, the
  presented coordinate lists `a`, `b`); `batchesOf n groups` are the rows that successive
  `Metrics.consumeTrace` calls return when the two `intersect_i` traces of `a & b` are
  consumed after every group of consecutive fibers (header with the first); `tfTotal` /
  `saTotal` / `lfTotal` feed them to a fresh Two-Finger / Skip-Ahead / Leader-Follower
  intersector (`none` = the call raises) and read `getNumIntersects()`.
  `ascPre g`: the outer-loop points of the fibers of one call ascend (Python's list order) —
  what every loop nest produces, and the only way a trace can tell two fibers apart.
-/
import FtProofs.Lemmas.Intersect
import FtProofs.Lemmas.Compute
import FtProofs.Lemmas.MergeInf
import FtProofs.Lemmas.MergeEmit
namespace Ft

/-! ## Two-finger and skip-ahead -/

/-- **Two-finger, any batching.**  Whatever the grouping of the fibers into `addTraces`
    calls (fiber by fiber, one shot, mixed, with calls that receive nothing before the first,
    between two, or after the last intersection), the total is the number of comparison steps
    of a two-finger merge of each fiber's two coordinate lists (before either is exhausted),
    summed over the fibers: no comparison spans two fibers.  Operands may be empty, disjoint,
    interleaved, identical; inside one call the outer-loop points ascend. -/
theorem twoFinger_batched (n : Nat) (groups : List (List FiberIn))
    (hshape : ∀ g ∈ groups, ∀ f ∈ g, f.oi.length + 1 = n ∧ f.pre.length + 1 = n)
    (hasc : ∀ g ∈ groups, ascPre g = true) :
    tfTotal (batchesOf n groups) = some (tfSpecAll groups.flatten : Int) :=
  tfTotal_batches n groups (fun g hg => ⟨hshape g hg, hasc g hg⟩)

/-- **Skip-ahead, any batching** (empty calls anywhere): maximal same-side runs plus matches
    of every fiber's merge. -/
theorem skipAhead_batched (n : Nat) (groups : List (List FiberIn))
    (hshape : ∀ g ∈ groups, ∀ f ∈ g, f.oi.length + 1 = n ∧ f.pre.length + 1 = n)
    (hasc : ∀ g ∈ groups, ascPre g = true) :
    saTotal (batchesOf n groups) = some (saSpecAll groups.flatten : Int) :=
  saTotal_batches n groups (fun g hg => ⟨hshape g hg, hasc g hg⟩)

/-- **Two-finger, fed fiber by fiber** (no condition on the outer points: they may even be
    equal, as when the same pair is intersected repeatedly without an outer rank). -/
theorem twoFinger_spec (n : Nat) (fs : List FiberIn)
    (hshape : ∀ f ∈ fs, f.oi.length + 1 = n ∧ f.pre.length + 1 = n) :
    tfTotal (batchesOf n (fs.map (fun f => [f]))) = some (tfSpecAll fs : Int) := by
  have := tfTotal_batches n _ (singletons_ok n fs hshape)
  rwa [flatten_singletons] at this

/-- **Skip-ahead, fed fiber by fiber**: maximal same-side runs plus matches. -/
theorem skipAhead_spec (n : Nat) (fs : List FiberIn)
    (hshape : ∀ f ∈ fs, f.oi.length + 1 = n ∧ f.pre.length + 1 = n) :
    saTotal (batchesOf n (fs.map (fun f => [f]))) = some (saSpecAll fs : Int) := by
  have := saTotal_batches n _ (singletons_ok n fs hshape)
  rwa [flatten_singletons] at this

/-! ## Leader-follower -/

/-- **Leader-follower**: fed the leader trace of leader-follower intersections, in any
    batching (calls that receive nothing included, anywhere — even if no intersection ever
    runs), the total is the number of elements the leader presented. -/
theorem c19_leaderFollower_spec (n : Nat) (groups : List (List FiberIn)) :
    lfTotal (leaderBatchesOf n groups) = (lfSpecAll groups.flatten : Int) := by
  induction groups with
  | nil => rfl
  | cons g r ih =>
    cases g with
    | nil =>
      rw [leaderBatchesOf, lfTotal, List.foldl_cons, lfAdd_nil _ rfl]
      exact ih
    | cons f g' =>
      -- the first call that receives rows also receives the header
      have := sum_leader_lengths ((f :: g') :: r)
      rw [leaderBatchesOf, lfTotal_cons _ _ (List.cons_ne_nil _ _)]
      simp only [List.map_cons, List.sum_cons, List.length_cons] at this ⊢
      omega

/-- … and for any trace at all (e.g. an `intersect_i` trace of `a & b`, as the test-suite
    feeds it) the total is the number of rows behind the header, however the rows are
    distributed over the calls (empty calls included; 0 as long as no row has arrived). -/
theorem leaderFollower_rows (bs : List (List TRow)) :
    lfTotal bs = ((bs.map List.length).sum : Nat) - (if bs.all List.isEmpty then (0 : Int) else 1) :=
  lfTotal_rows bs

/-! ## Batching -/

/-- **Batching is irrelevant**: any two groupings of the same fibers into calls — empty calls
    anywhere — give the same totals for all three models (`GroupsOk n g`: every fiber has rows
    of `n` loop ranks and inside each call the outer points ascend). -/
theorem batching_irrelevant (n : Nat) (g1 g2 : List (List FiberIn))
    (hsame : g1.flatten = g2.flatten)
    (h1 : GroupsOk n g1) (h2 : GroupsOk n g2) :
    tfTotal (batchesOf n g1) = tfTotal (batchesOf n g2) ∧
    saTotal (batchesOf n g1) = saTotal (batchesOf n g2) ∧
    lfTotal (leaderBatchesOf n g1) = lfTotal (leaderBatchesOf n g2) := by
  refine ⟨?_, ?_, ?_⟩
  · rw [tfTotal_batches n g1 h1, tfTotal_batches n g2 h2, hsame]
  · rw [saTotal_batches n g1 h1, saTotal_batches n g2 h2, hsame]
  · rw [c19_leaderFollower_spec, c19_leaderFollower_spec, hsame]

/-- in particular one shot = fiber by fiber -/
theorem oneShot_eq_fiberByFiber (n : Nat) (fs : List FiberIn)
    (hshape : ∀ f ∈ fs, f.oi.length + 1 = n ∧ f.pre.length + 1 = n) (hasc : ascPre fs = true) :
    tfTotal (batchesOf n [fs]) = tfTotal (batchesOf n (fs.map (fun f => [f]))) ∧
    saTotal (batchesOf n [fs]) = saTotal (batchesOf n (fs.map (fun f => [f]))) := by
  have h1 : GroupsOk n [fs] := by
    intro g hg
    rw [List.mem_singleton.1 hg]
    exact ⟨hshape, hasc⟩
  have h2 := singletons_ok n fs hshape
  have hs : [fs].flatten = (fs.map (fun f => [f])).flatten := by
    rw [flatten_singletons]; simp
  exact ⟨(batching_irrelevant n _ _ hs h1 h2).1, (batching_irrelevant n _ _ hs h1 h2).2.1⟩

/-! ## Non-vacuity, and the former counterexamples (repaired in /repo: DESIGN appendix A.3) -/

/-- two fibers under one outer rank (points 0 and 1), each `a = [1]`, `b = [1, 2]`: the merge of
    each ends with a match that exhausts `a` only, leaving a lone trailing row of `b` -/
def wit : List FiberIn := [⟨[0], [0], [1], [1, 2]⟩, ⟨[1], [1], [1], [1, 2]⟩]

theorem wit_spec : tfSpecAll wit = 2 ∧ saSpecAll wit = 2 := by
  simp [wit, tfSpecAll, tfSpec, saSpecAll, saSpec, sameSideRuns, mergeLabels_cons_cons, mergeLabels_nil_left]

/-- one `addTraces` call on the two traces of `wit` (header, then the rows of both fibers),
    evaluated: the rows, their points, the loops -/
theorem wit_calls :
    tfAdd {} (TRow.hdr 5 :: (groupRows wit).1) (TRow.hdr 5 :: (groupRows wit).2) =
      some { started := true, numRanks := 2, count := 2 } ∧
    saAdd {} (TRow.hdr 5 :: (groupRows wit).1) (TRow.hdr 5 :: (groupRows wit).2) =
      some { started := true, numRanks := 2, count := 2 } := by
  have hu : andUses 0 [1] [1, 2] = ([(0, 1)], [(0, 1), (1, 2)]) := by
    simp [andUses_cons_cons, andUses_nil_cons]
  have hpts : startPts 2 (groupRows wit).1 (groupRows wit).2 =
      some (some ([[0, 1], [1, 1]], [[0, 1], [0, 2], [1, 1], [1, 2]])) := by
    simp only [wit, groupRows, FiberIn.rows, hu, List.flatMap_cons, List.flatMap_nil, List.append_nil]
    decide
  have htf : tfLoop [[0, 1], [1, 1]] [[0, 1], [0, 2], [1, 1], [1, 2]] = 2 := by
    simp [tfLoop_cons_cons, tfLoop_nil_left, c19_lexLt]
  have hsa : saLoop none [[0, 1], [1, 1]] [[0, 1], [0, 2], [1, 1], [1, 2]] = 2 := by
    simp [saLoop_cons_cons, saLoop_nil_left, c19_lexLt]
  constructor
  · simp [tfAdd, TRow.len, hpts, htf]
  · simp [saAdd, TRow.len, hpts, hsa]

/-- fed in one shot both models report 2 = the merge steps (before the repair: 3) -/
example :
    (∀ f ∈ wit, f.oi.length + 1 = 2 ∧ f.pre.length + 1 = 2) ∧ ascPre wit = true ∧
    tfSpecAll wit = 2 ∧ saSpecAll wit = 2 ∧
    tfTotal (batchesOf 2 [wit]) = some 2 ∧
    saTotal (batchesOf 2 [wit]) = some 2 := by
  have hb : batchesOf 2 [wit] = [(TRow.hdr 5 :: (groupRows wit).1, TRow.hdr 5 :: (groupRows wit).2)] := rfl
  rw [hb]
  refine ⟨by decide, by decide, wit_spec.1, wit_spec.2, ?_, ?_⟩
  · simp [tfTotal, feed2, wit_calls.1]
  · simp [saTotal, feed2, wit_calls.2]

/-- calls made before the first intersection (empty traces, e.g. feeding at the top of every
    outer iteration) and after the last one: all three models report the fiber-by-fiber totals
    (before the repair the two-finger model raised IndexError and the leader-follower total was
    -1 until the header arrived) -/
example :
    tfTotal (batchesOf 2 ([] :: [wit] ++ [[]])) = some 2 ∧
    saTotal (batchesOf 2 ([] :: [wit] ++ [[]])) = some 2 ∧
    lfTotal (leaderBatchesOf 2 ([] :: [wit] ++ [[]])) = 2 ∧
    lfTotal (leaderBatchesOf 2 [[], []]) = 0 := by
  have hb : batchesOf 2 ([] :: [wit] ++ [[]]) =
      [([], []), (TRow.hdr 5 :: (groupRows wit).1, TRow.hdr 5 :: (groupRows wit).2), ([], [])] := rfl
  rw [hb]
  refine ⟨?_, ?_, by decide, by decide⟩
  · simp [tfTotal, feed2, tfAdd_nil, wit_calls.1]
  · simp [saTotal, feed2, saAdd_nil, wit_calls.2]

/-- a fiber with exactly one empty operand in front of another one (before the repair: the
    call raised) -/
example : tfTotal (batchesOf 2 [[⟨[0], [0], [], [2]⟩, ⟨[1], [2], [1], [1]⟩]]) = some 1 := by
  have hu : andUses 0 [] [2] = ([], [(0, 2)]) ∧ andUses 0 [1] [1] = ([(0, 1)], [(0, 1)]) := by
    simp [andUses_cons_cons, andUses_nil_cons, andUses_nil_nil]
  have hpts : startPts 2 (groupRows [⟨[0], [0], [], [2]⟩, ⟨[1], [2], [1], [1]⟩]).1
      (groupRows [⟨[0], [0], [], [2]⟩, ⟨[1], [2], [1], [1]⟩]).2 = some (some ([[2, 1]], [[0, 2], [2, 1]])) := by
    simp only [groupRows, FiberIn.rows, hu.1, hu.2, List.flatMap_cons, List.flatMap_nil, List.append_nil]
    decide
  have hl : tfLoop [[2, 1]] [[0, 2], [2, 1]] = 1 := by
    simp [tfLoop_cons_cons, tfLoop_nil_right, c19_lexLt]
  simp [tfTotal, batchesOf, feed2, tfAdd, TRow.len, hpts, hl]

/-- a mixed batching: a fiber with a run of two on the left, one ending on a match with a
    trailing row, one with an empty operand -/
def exGroups : List (List FiberIn) :=
  [[⟨[0], [0], [1, 2, 5], [3, 5]⟩, ⟨[1], [4], [1], [1, 2]⟩, ⟨[2], [6], [], [7]⟩], [⟨[3], [8], [4], [4]⟩]]

example : (∀ g ∈ exGroups, ∀ f ∈ g, f.oi.length + 1 = 2 ∧ f.pre.length + 1 = 2) ∧
    (∀ g ∈ exGroups, ascPre g = true) ∧
    tfSpecAll exGroups.flatten = 6 ∧ saSpecAll exGroups.flatten = 5 ∧ lfSpecAll exGroups.flatten = 5 := by
  refine ⟨by decide, by decide, ?_, ?_, by decide⟩
  · simp [exGroups, tfSpecAll, tfSpec, mergeLabels_cons_cons, mergeLabels_nil_left, mergeLabels_nil_right]
  · simp [exGroups, saSpecAll, saSpec, mergeLabels_cons_cons, mergeLabels_nil_left, mergeLabels_nil_right,
      sameSideRuns]

example : GroupsOk 2 exGroups ∧ GroupsOk 2 (exGroups.flatten.map (fun f => [f])) := by
  unfold GroupsOk ShapeOk; decide

/-- groupings with calls that receive nothing (before, in between, at the end) satisfy the hypotheses -/
example : GroupsOk 2 ([] :: exGroups ++ [[]]) := by
  unfold GroupsOk ShapeOk; decide

/-! ## The swap-count model (`Compute.numSwaps`)

`numSwapsTree e radix lat depth t` is `_numSwapsTree(root, depth, radix, next_latency)` on a
tree with `e + 2 + depth` ranks (any payload type: values are never read); `mergeNodes e depth t`
lists, for every fiber of level `depth`, the coordinate lists that are merged there (the
stored coordinates of every sub-fiber holding at least one); `RadixOk radix`: the radix is
`float("inf")` or at least 2 (radix 1 does not terminate in Python). -/

/-- **Finite latency**: at every fiber of the target level, each merge round over `k > 1`
    lists holding `n` coordinates in total is charged `lat · (k + n)` — the latency per list
    and per element — and leaves ⌈k / min(radix, k)⌉ lists (`roundsCost`). -/
theorem swaps_finite {ν : Type} (e : Nat) (radix : Option Nat) (hr : RadixOk radix) (lat depth : Nat)
    (t : Tree Int ν (e + 2 + depth)) :
    numSwapsTree e radix (Lat.fin lat) depth t =
      ((mergeNodes e depth t).map (fun lists => roundsCost radix lat (total lists) lists.length)).sum := by
  rw [numSwapsTree_eq_nodes]
  congr 1
  apply List.map_congr_left
  intro lists _
  exact swapsAt_fin radix hr lat lists

/-- the rounds: `roundsCost` unfolded once -/
theorem roundsCost_round (radix : Option Nat) (lat n k : Nat) :
    roundsCost radix lat n k =
      if 2 ≤ k ∧ 2 ≤ clampRadix radix k then
        lat * (k + n) + roundsCost radix lat n (ceilDiv k (clampRadix radix k))
      else 0 :=
  roundsCost_eq radix lat n k

/-- **Unbounded latency ("N")**: at every fiber of the target level, each round merges the
    lists in groups of `min(radix, k)` through a sorted buffer of list heads; bringing a
    coordinate into the buffer is charged one comparison per buffered head that is emitted
    before it (smaller coordinate, or equal coordinate and larger list index) plus one
    (`insertMerge`, stated on the coordinates themselves — the implementation works on negated
    coordinates, stacks and `bisect_right` positions). -/
theorem swaps_infinite (e : Nat) (radix : Option Nat) (hr : RadixOk radix) (depth : Nat)
    (t : Tree Int Int (e + 2 + depth)) (hwf : wfB (e + 2 + depth) t = true) :
    numSwapsTree e radix Lat.inf depth t = ((mergeNodes e depth t).map (roundsInf radix)).sum := by
  have hwf := (wfB_eq_true_iff _ t).1 hwf
  rw [numSwapsTree_eq_nodes]
  congr 1
  apply List.map_congr_left
  intro lists hl
  rw [swapsAt_inf radix hr lists, map_pySort_of_sorted lists (mergeNodes_sorted e depth t hwf lists hl)]

/-- the rounds: `roundsInf` unfolded once -/
theorem roundsInf_round (radix : Option Nat) (lists : List (List Int)) :
    roundsInf radix lists =
      if 2 ≤ lists.length ∧ 2 ≤ clampRadix radix lists.length then
        (((chunks (clampRadix radix lists.length) lists).map insertMerge).map (·.1)).sum +
          roundsInf radix (((chunks (clampRadix radix lists.length) lists).map insertMerge).map (·.2))
      else 0 :=
  roundsInf_eq radix lists

/-- a merge emits every coordinate of its lists exactly once: what it leaves for the next
    round is the sorted union of its lists -/
theorem insertMerge_leaves_sorted_union (lists : List (List Int)) :
    (insertMerge lists).2 = pySort lists.flatten := by
  unfold insertMerge
  obtain ⟨h1, _, h3⟩ := specHeads_content lists 0 [] 0
  have hc : toEmit lists [] = lists.flatten := by simp [toEmit]
  have hlen : (toEmit (specHeads 0 lists [] 0).1 (specHeads 0 lists [] 0).2.1).length ≤
      (lists.map List.length).sum := by
    rw [h1.length_eq, hc, List.length_flatten]
    exact Nat.le_refl _
  have := specDrain_emits _ _ _ [] (specHeads 0 lists [] 0).2.2 h3 hlen
  rw [List.nil_append] at this
  exact pySort_congr (this.trans (hc ▸ h1))

/-- **Payload independence**: the count is a function of the coordinate skeleton alone
    (`skel` erases every payload value; `swapsSpec` is computed from the skeleton). -/
theorem swaps_skeleton {ν : Type} (e : Nat) (radix : Option Nat) (lat : Lat) (depth : Nat)
    (t : Tree Int ν (e + 2 + depth)) :
    numSwapsTree e radix lat depth t = swapsSpec e radix lat depth (skel (e + 2 + depth) t) := by
  rw [numSwapsTree_eq_nodes, mergeNodes_skel e depth t, swapsSpec]

/-- two trees with the same coordinates get the same count, whatever their payload values
    (explicit defaults included) and whatever their payload types -/
theorem swaps_payload_independent {ν ν' : Type} (e : Nat) (radix : Option Nat) (lat : Lat)
    (depth : Nat) (t : Tree Int ν (e + 2 + depth)) (t' : Tree Int ν' (e + 2 + depth))
    (hs : skel (e + 2 + depth) t = skel (e + 2 + depth) t') :
    numSwapsTree e radix lat depth t = numSwapsTree e radix lat depth t' := by
  rw [swaps_skeleton e radix lat depth t, swaps_skeleton e radix lat depth t', hs]

/-- the executable specifications the driver evaluates on the implementation's result
    (`swapsSpecFin`: closed-form rounds on the skeleton; `swapsSpecInf`: insertion-buffer
    rounds on the skeleton) are what the model computes -/
theorem swaps_finite_skeleton {ν : Type} (e : Nat) (radix : Option Nat) (hr : RadixOk radix)
    (lat depth : Nat) (t : Tree Int ν (e + 2 + depth)) :
    numSwapsTree e radix (Lat.fin lat) depth t = swapsSpecFin e radix lat depth (skel (e + 2 + depth) t) := by
  rw [swaps_finite e radix hr lat depth t, mergeNodes_skel e depth t, swapsSpecFin]

theorem swaps_infinite_skeleton (e : Nat) (radix : Option Nat) (hr : RadixOk radix)
    (depth : Nat) (t : Tree Int Int (e + 2 + depth)) (hwf : wfB (e + 2 + depth) t = true) :
    numSwapsTree e radix Lat.inf depth t = swapsSpecInf e radix depth (skel (e + 2 + depth) t) := by
  rw [swaps_infinite e radix hr depth t hwf, mergeNodes_skel e depth t, swapsSpecInf]

/-- ranks M, K: M0 ↦ {1: v}, M1 ↦ {2: 5, 3: 5} -/
def witTree (v : Int) : Tree Int Int 2 :=
  show List (Int × List (Int × Int)) from [(0, [(1, v)]), (1, [(2, 5), (3, 5)])]

/-- the former counterexample (repaired in /repo: DESIGN appendix A.3): payload 0 or 7 at one
    leaf, 5 swaps either way (before the repair: 0 and 5) -/
example :
    skel 2 (witTree 0) = skel 2 (witTree 7) ∧
    numSwapsTree 0 (some 2) (Lat.fin 1) 0 (witTree 7) = 5 ∧
    numSwapsTree 0 (some 2) (Lat.fin 1) 0 (witTree 0) = 5 := by
  have h1 : roundsCost (some 2) 1 3 1 = 0 := roundsCost_small _ _ _ _ (Nat.le_refl 1)
  have h2 : roundsCost (some 2) 1 3 2 = 5 := by
    rw [roundsCost_eq]; simp [clampRadix, ceilDiv, h1]
  have m7 : mergeNodes 0 0 (witTree 7) = [[[1], [2, 3]]] := by decide
  have h7 : numSwapsTree 0 (some 2) (Lat.fin 1) 0 (witTree 7) = 5 := by
    rw [swaps_finite 0 (some 2) (Nat.le_refl 2) 1 0 (witTree 7), m7]
    simp [total, h2]
  exact ⟨rfl, h7, (swaps_payload_independent 0 (some 2) (Lat.fin 1) 0 (witTree 0) (witTree 7) rfl).trans h7⟩

/-- non-vacuity: three lists, radix 2: two rounds, 3·(3+8) + 3·(2+8) (test_num_swaps_finite_radix) -/
example : RadixOk (some 2) ∧ roundsCost (some 2) 3 8 3 = 63 := by
  refine ⟨Nat.le_refl 2, ?_⟩
  have h1 : roundsCost (some 2) 3 8 1 = 0 := roundsCost_small _ _ _ _ (Nat.le_refl 1)
  have h2 : roundsCost (some 2) 3 8 2 = 30 := by
    rw [roundsCost_eq]; simp [clampRadix, ceilDiv, h1]
  rw [roundsCost_eq]; simp [clampRadix, ceilDiv, h2]

/-- non-vacuity (test_num_swaps_undefined_next): three lists in one merge, 15 comparisons -/
example : (insertMerge [[1, 3, 5], [0, 2, 3], [1, 4]]).1 = 15 := by decide

example : wfB 2 (witTree 7) = true := by decide

end Ft
