/-
  C18 — format footprints add up from the tree exactly (fibertree/model/format.py).
  Property theorems only; helper lemmas live in FtProofs/Lemmas/Format.lean.

  Model: FtModel/Format.lean.  Heights: a fiber of the leaf rank has height 0, rank `i` of a
  tensor with `D+1` ranks has height `D - i`; `lv h` is the filled spec + shape of that rank.
-/
import FtProofs.Lemmas.Format
set_option linter.unusedSectionVars false
namespace Ft

/-- `_getFiberFootprint`: header plus (coordinate + payload bits) times the occupancy
    (`len(fiber)`) if compressed, times the rank's shape if uncompressed. -/
theorem fiber_fp (l : FpLevel) (occ : Nat) :
    fpFiber l occ = l.fhbits + (l.cbits + l.pbits) *
      (match l.format with | .C => occ | .U => l.shape) := by
  show fpFiber l occ = l.fhbits + (l.cbits + l.pbits) * fpNumElems l occ
  unfold fpFiber; rw [Nat.add_mul]; omega

example : fpFiber { format := .C, fhbits := 10, cbits := 3, pbits := 4, shape := 6 } 2 = 24 ∧
          fpFiber { format := .U, fhbits := 10, cbits := 3, pbits := 4, shape := 6 } 2 = 52 := by decide

/-- `getRank`: the loop over `Rank.getFibers()` returns the rank header plus the footprints
    of all the rank's fibers. -/
theorem rank_fp (l : FpLevel) (fibers : List FpRankEntry) :
    fpGetRank l fibers = l.rhbits + (fibers.map (fun e => fpFiber l e.2)).sum :=
  foldl_add_eq_sum _ _ _

/-- `getTensor`: the root's bits plus all ranks'. -/
theorem tensor_fp (rootBits : Nat) (lv : Nat → FpLevel) (D : Nat) (ranks : List (List FpRankEntry)) :
    fpGetTensor rootBits lv D ranks =
      rootBits + ((List.range (D + 1)).map (fun i => fpGetRank (lv (D - i)) (ranks.getD i []))).sum :=
  foldl_add_eq_sum _ _ _

section
variable {ν : Type} [DecidableEq ν]

theorem fpMirrorB_iff (D : Nat) (root : Tree Int ν (D + 1)) (ranks : List (List FpRankEntry)) :
    fpMirrorB D root ranks = true ↔ FpMirror D root ranks := by
  simp only [fpMirrorB, FpMirror, List.all_eq_true, List.mem_range, List.isPerm_iff]
  constructor
  · intro h i hi; exact h i (by omega)
  · intro h i hi; exact h i (by omega)

/-- Under `FpMirror` (C02's mirror property as far as footprints read it: the fiber list of rank `i`
    is a permutation of the fibers stored `i` levels below the root) the rank footprint equals the sum
    recomputed from the raw walk of the tree.  PARTIAL: `FpMirror` is an assumption here, it is C02's claim. -/
theorem rank_fp_tree_partial (lv : Nat → FpLevel) (D : Nat) (root : Tree Int ν (D + 1))
    (ranks : List (List FpRankEntry)) (hm : FpMirror D root ranks) (i : Nat) (hi : i ≤ D) :
    fpGetRank (lv (D - i)) (ranks.getD i []) = fpRankSpec lv D root i := by
  rw [rank_fp, fpRankSpec]
  congr 1
  exact ((hm i hi).map _).sum_nat

/-- … and so does the tensor footprint.  PARTIAL: under `FpMirror`. -/
theorem tensor_fp_tree_partial (rootBits : Nat) (lv : Nat → FpLevel) (D : Nat)
    (root : Tree Int ν (D + 1)) (ranks : List (List FpRankEntry)) (hm : FpMirror D root ranks) :
    fpGetTensor rootBits lv D ranks = fpTensorSpec rootBits lv D root := by
  rw [tensor_fp, fpTensorSpec]
  congr 2
  apply List.map_congr_left
  intro i hi
  exact rank_fp_tree_partial lv D root ranks hm i (by have := List.mem_range.1 hi; omega)

/-- the raw walk by depth lists exactly the stored fibers `i` levels down (every stored
    element counts, empty or not), each with its `len` -/
theorem rank_fibers_iff (d : Nat) (f : Tree Int ν (d + 1)) (i : Nat) (e : FpRankEntry) :
    e ∈ fpFibersAt d f i ↔ ∃ p, e.1 = some p ∧ p.length = i ∧ FpStored d f p e.2 := by
  induction d generalizing i e with
  | zero =>
    cases i with
    | zero => exact mem_fpFibersAt_zero 0 f e
    | succ i =>
      simp only [fpFibersAt, List.not_mem_nil, FpStored, false_iff]
      rintro ⟨p, _, h2, rfl, _⟩; simp at h2
  | succ d ih =>
    cases i with
    | zero => exact mem_fpFibersAt_zero (d + 1) f e
    | succ i =>
      rw [mem_fpFibersAt_succ]
      constructor
      · rintro ⟨x, hx, r, hr, rfl⟩
        obtain ⟨p, h1, h2, h3⟩ := (ih x.2 i r).1 hr
        refine ⟨x.1 :: p, by simp [h1], by simp [h2], ?_⟩
        exact ⟨x.2, hx, h3⟩
      · rintro ⟨p, h1, h2, h3⟩
        cases p with
        | nil => simp at h2
        | cons c p' =>
          obtain ⟨g, hg, hs⟩ := h3
          refine ⟨(c, g), hg, (some p', e.2), (ih g i _).2 ⟨p', rfl, by simpa using h2, hs⟩, ?_⟩
          exact Prod.ext (by simp [h1]) rfl

/-- non-vacuity: a 2-rank tensor whose rank lists (in another order) mirror the tree -/
def exTree : Tree Int Int 2 := (show List (Int × Tree Int Int 1) from
  [(0, (show List (Int × Int) from [(1, 5), (3, 0)])), (2, (show List (Int × Int) from [])),
   (3, (show List (Int × Int) from [(0, 0)]))])

def exRanks : List (List FpRankEntry) :=
  [[(some [], 3)], [(some [3], 1), (some [0], 2), (some [2], 0)]]

def exLv (fm fk : FmtKind) : Nat → FpLevel
  | 1 => { format := fm, rhbits := 1000, fhbits := 100, cbits := 1, pbits := 2, shape := 4 }
  | _ => { format := fk, rhbits := 0, fhbits := 10, cbits := 3, pbits := 4, shape := 4 }

example : FpMirror 1 exTree exRanks := (fpMirrorB_iff 1 exTree exRanks).1 (by decide)
example : fpGetTensor 5 (exLv .U .C) 1 exRanks = 1168 := by decide

/-- The stack loop of `getSubTree`, started on one fiber with as much fuel as there are
    fibers to visit, returns the sum of the footprints of the enumerated reachable fibers. -/
theorem subtree_walk (dflt : ν) (lv : Nat → FpLevel) (d : Nat) (f : Tree Int ν (d + 1)) :
    fpWalk dflt lv (fpSize dflt lv d f) [⟨d, f⟩] 0 = fpSubTreeSpec dflt lv d f := by
  have := fpWalk_spec dflt lv (fpSize dflt lv d f) [⟨d, f⟩] 0 (by simp [fpItemSize])
  simpa [fpItemSpec] using this

/-- more fuel changes nothing (the loop has stopped) -/
theorem subtree_walk_fuel (dflt : ν) (lv : Nat → FpLevel) (d : Nat) (f : Tree Int ν (d + 1))
    (fuel : Nat) (h : fpSize dflt lv d f ≤ fuel) :
    fpWalk dflt lv fuel [⟨d, f⟩] 0 = fpSubTreeSpec dflt lv d f := by
  have := fpWalk_spec dflt lv fuel [⟨d, f⟩] 0 (by simpa [fpItemSize] using h)
  simpa [fpItemSpec] using this

/-- `getSubTree(*coords)` for every point prefix: the sum over the enumerated fibers
    reachable below the addressed fiber (an absent point addresses an empty fiber); for a
    full-length point the leaf rank's element bits. -/
theorem subtree_fp (dflt : ν) (lv : Nat → FpLevel) (D : Nat) (root : Tree Int ν (D + 1))
    (coords : List Int) :
    fpGetSubTree dflt lv D root coords = fpSubTreeAtSpec dflt lv D root coords := by
  unfold fpGetSubTree fpSubTreeAtSpec
  split
  · rfl
  · cases fpDescend D root coords with
    | none => rfl
    | some it =>
      obtain ⟨h, f⟩ := it
      simp only [Option.map_some, subtree_walk]

/-- The enumeration is exact: it lists a (path, height, len) iff that fiber is reachable —
    through the stored non-empty elements of a compressed rank, through every coordinate
    `0 ≤ c < shape` of an uncompressed one, an absent child counting as an empty fiber. -/
theorem subtree_reach_iff (dflt : ν) (lv : Nat → FpLevel) (d : Nat) (f : Tree Int ν (d + 1))
    (p : List Int) (h o : Nat) :
    (p, h, o) ∈ fpReach dflt lv d f ↔ FpReachable dflt lv d f p h o := by
  induction d generalizing p h o with
  | zero => simp [fpReach, FpReachable]
  | succ d ih =>
    cases p with
    | nil => rw [mem_fpReach_nil]; rfl
    | cons c p' =>
      rw [mem_fpReach_cons, fpReachable_cons_iff]
      constructor
      · rintro ⟨k, hk, hc, hr⟩
        exact ⟨k, hk, hc, (ih k.2 _ _ _).1 hr⟩
      · rintro ⟨k, hk, hc, hr⟩
        exact ⟨k, hk, hc, (ih k.2 _ _ _).2 hr⟩

/-- … and every reachable fiber is listed once (coordinate paths are distinct) when the
    fibers are sorted (C01's order clause). -/
theorem subtree_reach_nodup (dflt : ν) (lv : Nat → FpLevel) (d : Nat) (f : Tree Int ν (d + 1))
    (hw : WF (d + 1) f) : ((fpReach dflt lv d f).map (·.1)).Nodup :=
  fpReach_nodup_uniq dflt lv d f (fpUniq_of_wf (d + 1) f hw)

example : WF 2 exTree := (fp_wfB_iff 2 exTree).1 (by decide)

/-- … and sortedness is not needed for that: unique coordinates in every fiber suffice, so the
    statement covers fibers created with `ordered=False` (elements in insertion order). -/
theorem subtree_reach_nodup_unordered (dflt : ν) (lv : Nat → FpLevel) (d : Nat) (f : Tree Int ν (d + 1))
    (hu : FpUniq (d + 1) f) : ((fpReach dflt lv d f).map (·.1)).Nodup :=
  fpReach_nodup_uniq dflt lv d f hu

/-- a tree whose root stores its coordinates as [2, 0, 1] -/
def exUnordered : Tree Int Int 2 := (show List (Int × Tree Int Int 1) from
  [(2, (show List (Int × Int) from [(1, 5), (0, 6)])), (0, (show List (Int × Int) from [(3, 1)])),
   (1, (show List (Int × Int) from []))])

example : FpUniq 2 exUnordered ∧ ¬ WF 2 exUnordered := by
  refine ⟨⟨by decide, ?_⟩, fun h => absurd ((fp_wfB_iff 2 exUnordered).2 h) (by decide)⟩
  intro e he
  simp only [exUnordered, List.mem_cons, List.not_mem_nil, or_false] at he
  rcases he with rfl | rfl | rfl <;> exact ⟨by decide, fun _ _ => trivial⟩

example : fpGetSubTree (0 : Int) (exLv .U .C) 1 exUnordered [] = some 173 ∧
          fpGetSubTree (0 : Int) (exLv .U .C) 1 exUnordered [2] = some 24 := by decide

/-- non-vacuity of the reachability clauses on `exTree` (children 0 ↦ [1↦5, 3↦0], 2 ↦ [], 3 ↦ [0↦0]):
    under an uncompressed top rank the absent coordinate 1 is reached as an empty fiber and
    coordinate 4 (= shape) is not; under a compressed top rank the stored but empty children 2, 3
    are not reached while child 0 is. -/
example : FpReachable (0 : Int) (exLv .U .C) 1 exTree [1] 0 0 ∧
          ¬ FpReachable (0 : Int) (exLv .U .C) 1 exTree [4] 0 0 ∧
          FpReachable (0 : Int) (exLv .C .C) 1 exTree [0] 0 2 ∧
          ¬ FpReachable (0 : Int) (exLv .C .C) 1 exTree [2] 0 0 ∧
          ¬ FpReachable (0 : Int) (exLv .C .C) 1 exTree [3] 0 1 := by
  refine ⟨?_, ?_, ?_, ?_, ?_⟩
  · exact (subtree_reach_iff _ _ _ _ _ _ _).1 (by decide)
  · exact fun h => absurd ((subtree_reach_iff _ _ _ _ _ _ _).2 h) (by decide)
  · exact (subtree_reach_iff _ _ _ _ _ _ _).1 (by decide)
  · exact fun h => absurd ((subtree_reach_iff _ _ _ _ _ _ _).2 h) (by decide)
  · exact fun h => absurd ((subtree_reach_iff _ _ _ _ _ _ _).2 h) (by decide)

example : fpGetSubTree (0 : Int) (exLv .C .C) 1 exTree [] = some 133 ∧
          fpGetSubTree (0 : Int) (exLv .U .U) 1 exTree [] = some 264 ∧
          fpGetSubTree (0 : Int) (exLv .U .C) 1 exTree [1] = some 10 ∧
          fpGetSubTree (0 : Int) (exLv .U .C) 1 exTree [0, 1] = some 7 := by decide

end

/-- `_checkFillSpec` on a rank entry: every field keeps the given value and a missing field
    gets zero bits / "C" / "contiguous". -/
theorem spec_defaults_rank {e e' : SpecDict} (h : checkFillRank e = some e') (k : String) :
    lookup e' k = match lookup e k with
      | some v => some v
      | none => specRankDefault k := by
  unfold checkFillRank at h
  simp only [Option.bind_eq_bind, Option.bind_eq_some_iff] at h
  obtain ⟨e1, h1, e2, h2, e3, h3, e4, h4, e5, h5, e6, h6, h7⟩ := h
  split at h7
  · injection h7 with h7
    rw [← h7, fillStrField_eq h6, fillStrField_eq h5, fillIntField_eq h4, fillIntField_eq h3, fillIntField_eq h2,
      fillIntField_eq h1]
    simp only [lookup_fillDefault]
    cases lookup e k with
    | some v => rfl
    | none =>
      -- on both sides `k` is compared with the six keys in turn: for `k` equal to one of them both sides
      -- are that key's default, for any other `k` every `if` fails and both sides are `none`
      simp only [specRankDefault]
      by_cases k1 : k = "rhbits"
      · simp [k1]
      by_cases k2 : k = "fhbits"
      · simp [k2]
      by_cases k3 : k = "cbits"
      · simp [k3]
      by_cases k4 : k = "pbits"
      · simp [k4]
      by_cases k5 : k = "format"
      · simp [k5]
      by_cases k6 : k = "layout"
      · simp [k6]
      · simp [k1, k2, k3, k4, k5, k6, Ne.symm k1, Ne.symm k2, Ne.symm k3, Ne.symm k4, Ne.symm k5, Ne.symm k6]
  · cases h7

/-- the same for the `"root"` entry (`hbits`, `pbits` default to zero) -/
theorem spec_defaults_root {e e' : SpecDict} (h : checkFillRoot e = some e') (k : String) :
    lookup e' k = match lookup e k with
      | some v => some v
      | none => specRootDefault k := by
  unfold checkFillRoot at h
  simp only [Option.bind_eq_bind, Option.bind_eq_some_iff] at h
  obtain ⟨e1, h1, e2, h2, h7⟩ := h
  split at h7
  · injection h7 with h7
    rw [← h7, fillIntField_eq h2, fillIntField_eq h1]
    simp only [lookup_fillDefault]
    cases lookup e k with
    | some v => rfl
    | none =>
      simp only [specRootDefault]
      by_cases k1 : k = "hbits"
      · simp [k1]
      by_cases k2 : k = "pbits"
      · simp [k2]
      · simp [k1, k2, Ne.symm k1, Ne.symm k2]
  · cases h7

/-- the executable form used on the implementation's filled dictionaries -/
theorem spec_defaults_sound {e e' : SpecDict} (h : checkFillRank e = some e') :
    specFilledB specRankDefault specRankKeys e e' = true := by
  simp only [specFilledB, List.all_eq_true, beq_iff_eq]
  intro k _
  exact spec_defaults_rank h k

/-- a wholly missing spec is accepted and means: zero bits everywhere, compressed, contiguous -/
theorem spec_defaults_missing :
    checkFillSpec none [none] =
      some ([("hbits", .int 0), ("pbits", .int 0)],
            [[("rhbits", .int 0), ("fhbits", .int 0), ("cbits", .int 0), ("pbits", .int 0),
              ("format", .str "C"), ("layout", .str "contiguous")]]) ∧
    levelOf [("rhbits", .int 0), ("fhbits", .int 0), ("cbits", .int 0), ("pbits", .int 0),
              ("format", .str "C"), ("layout", .str "contiguous")] 7 =
      { format := .C, rhbits := 0, fhbits := 0, cbits := 0, pbits := 0, shape := 7 } := by
  constructor <;> decide

example : checkFillRank [("format", .str "U"), ("cbits", .int 3)] =
    some [("format", .str "U"), ("cbits", .int 3), ("rhbits", .int 0), ("fhbits", .int 0),
          ("pbits", .int 0), ("layout", .str "contiguous")] := by decide

end Ft
