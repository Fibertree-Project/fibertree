/-
  C15 — metrics collection is transparent, exact and session-isolated (the counter side).
  Property theorems; lemmas live in FtProofs/Lemmas/Metrics*.lean.

  Part A speaks about the `Metrics` class alone (any client), part B about the sum-of-products
  kernels of FtModel/MetricsKernel.lean.
-/
import FtProofs.Lemmas.MetricsSafe
import FtProofs.Lemmas.MetricsKernelLemmas
namespace Ft.C15

/-! ## A. the class -/

/-- **`beginCollect` resets every attribute**: whatever ran before, the state it leaves depends only
    on the prefix — and on the two things it does not touch, the flush threshold
    (`num_cached_uses`) and the trace files on disk. -/
theorem beginCollect_const (p : Option String) (s₁ s₂ : MState)
    (hn : s₁.numCachedUses = s₂.numCachedUses) (hf : s₁.fs = s₂.fs) :
    step (.beginCollect p) s₁ = step (.beginCollect p) s₂ := by
  -- `mBegin` overwrites every attribute but these two
  show some (MRet.unit, mBegin p s₁) = some (MRet.unit, mBegin p s₂)
  unfold mBegin
  rw [hn, hf]

/-- **session isolation, any client** (partial: the two histories must agree on the two things
    `beginCollect` does not reset, the flush threshold and the files on disk): a session
    (`beginCollect`, any calls — each may depend on what the earlier ones returned —, `endCollect`)
    then returns the same values and leaves the same attributes and files. -/
theorem session_isolated_partial (p : Option String) (client : Prog) (s₁ s₂ : MState)
    (hn : s₁.numCachedUses = s₂.numCachedUses) (hf : s₁.fs = s₂.fs) :
    session p client s₁ = session p client s₂ := by
  unfold session
  rw [beginCollect_const p s₁ s₂ hn hf]

/-- **exact counters**: after `beginCollect` and any calls that do not open another session,
    `dump()[line][metric]` (`Compute.numOps`) is the sum of the `incCount(line', metric, n)` calls
    with `line'.strip() = line` — nothing else moves a counter, nothing is lost. -/
theorem dump_counts_exact (p : Option String) (calls : List MOp) (s₀ s' : MState) (rs : List MRet)
    (hb : ∀ op ∈ calls, op.isBegin = false)
    (h : runOps (.beginCollect p :: calls) s₀ = some (rs, s')) (line metric : String) :
    count s' line metric = sumInc line metric calls := by
  obtain ⟨x, s1, rs', h1, h2, _⟩ := runOps_cons.1 h
  simp only [step, Option.some.injEq, Prod.mk.injEq] at h1
  rw [runOps_count h2 hb line metric, ← h1.2]
  -- `beginCollect` leaves `metrics = {}`: every counter starts at 0
  simp [count, mBegin, dget]

/-- **exact iteration counts**: in a structured session (file traces declared after `beginCollect`,
    then only the calls a loop nest makes, then `endCollect`), `Compute.numIters` of the file of EVERY
    declared trace is the number of `addUse` calls for that rank and type — whatever the flush
    threshold, whatever an earlier session left in a file of the same name, whether or not the rank
    was ever registered. -/
theorem numIters_eq_uses (p : String) (keys : List TKey) (body : List MOp) (s₀ s' : MState) (rs : List MRet)
    (hbody : ∀ op ∈ body, op.inBody = true)
    (hrun : runOps (openOps p keys ++ body ++ [.endCollect]) s₀ = some (rs, s'))
    (r ty : String) (hk : (r, ty) ∈ keys) :
    numIters (fileOf s' p r ty) = nUse r ty body := by
  obtain ⟨s2, hs2, hc2, hend⟩ := session_inv hbody hrun hk
  exact (mEnd_file hs2 hc2 hend).1

/-- a declared trace whose rank is never registered in the session (its loop never starts) ends the
    session with a new, empty file: nothing of an earlier session survives. -/
theorem unregistered_trace_file_empty (p : String) (keys : List TKey) (body : List MOp) (s₀ s' : MState)
    (rs : List MRet) (hbody : ∀ op ∈ body, op.inBody = true)
    (hrun : runOps (openOps p keys ++ body ++ [.endCollect]) s₀ = some (rs, s'))
    (r ty : String) (hk : (r, ty) ∈ keys) (hreg : registers r body = false) :
    fileOf s' p r ty = [] := by
  obtain ⟨s2, hs2, hc2, hend⟩ := session_inv hbody hrun hk
  exact (mEnd_file hs2 hc2 hend).2 hreg

/-! ## B. kernels (the loop nests of FtModel/MetricsKernel.lean) -/

/-- a collecting session around a kernel completes exactly when no collecting-only assertion fires and the
    `Metrics` calls of the session all succeed; it then leaves the tensor of the plain run -/
theorem kernelSession_eq_some {k : Kernel} {z : ATree} {ops : List Operand} {p : String} {keys : List TKey}
    {s₀ s' : MState} {out : ATree} :
    kernelSession k z ops p keys s₀ = some (out, s') ↔
      assertsOk (wtrOf keys) (kernelEvents k z ops) = true ∧ out = runPlain k z ops ∧
      ∃ rs, runOps (openOps p keys ++ callsOf (kernelEvents k z ops) ++ [.endCollect]) s₀ = some (rs, s') := by
  unfold kernelSession kernelEvents runPlain
  simp only
  split
  · rename_i hok
    simp only [Option.map_eq_some_iff, Prod.mk.injEq, Prod.exists, hok, true_and]
    constructor
    · rintro ⟨rs, s1, hrun, rfl, rfl⟩; exact ⟨rfl, rs, hrun⟩
    · rintro ⟨rfl, rs, hrun⟩; exact ⟨rs, s', hrun, rfl, rfl⟩
  · rename_i hok
    simp only [hok, false_and, reduceCtorEq]

/-- **the `Metrics` calls of a kernel never fail**: from any earlier state, opening a session with any
    set of file traces, running the kernel's calls and closing the session goes through — every
    `addUse`/`incIter`/`endIter` finds its rank registered, every flush and header write succeeds. -/
theorem kernel_calls_safe (k : Kernel) (z : ATree) (ops : List Operand) (p : String) (keys : List TKey)
    (s₀ : MState) :
    ∃ rs s', runOps (openOps p keys ++ callsOf (kernelEvents k z ops) ++ [.endCollect]) s₀ = some (rs, s') := by
  obtain ⟨r1, s1, h1, hd, _⟩ := open_ok p keys s₀
  have hr1 : RInv p [] s1 :=
    ⟨hd.sinv, [], [], [], [], [], hd.lo, hd.it, hd.lp, hd.pt, hd.met, fun r i h => by simp [dget] at h,
      fun r h => by simp at h⟩
  obtain ⟨r2, s2, _, h2, hr2⟩ := run_safe (callsOf (kernelEvents k z ops)) [] s1 hr1 (runK_safe _ _ _ _ _ [])
  obtain ⟨s3, h3⟩ := mEnd_ok hr2.1
  have h3' : runOps [MOp.endCollect] s2 = some ([.unit], s3) := by simp [runOps, step, h3]
  exact ⟨_, s3, runOps_append.2 ⟨_, _, _, runOps_append.2 ⟨_, _, _, h1, h2, rfl⟩, h3', rfl⟩⟩

/-- **transparency** (partial: the collecting-only assertion of `lshift_iterator` must not fire):
    a collecting session around the kernel — any prefix, any set of traces, any earlier state —
    completes and leaves the tensor the kernel computes with collection off. -/
theorem kernel_transparent_partial (k : Kernel) (z : ATree) (ops : List Operand) (p : String) (keys : List TKey)
    (s₀ : MState) (hok : assertsOk (wtrOf keys) (kernelEvents k z ops) = true) :
    ∃ s', kernelSession k z ops p keys s₀ = some (runPlain k z ops, s') := by
  obtain ⟨rs, s', h⟩ := kernel_calls_safe k z ops p keys s₀
  exact ⟨s', kernelSession_eq_some.2 ⟨hok, rfl, rs, h⟩⟩

/-- transparency is guaranteed when the output tensor was created with a shape -/
theorem kernel_transparent_declared (k : Kernel) (z : ATree) (ops : List Operand) (p : String) (keys : List TKey)
    (s₀ : MState) (hd : k.declared = true) :
    ∃ s', kernelSession k z ops p keys s₀ = some (runPlain k z ops, s') := by
  apply kernel_transparent_partial
  unfold kernelEvents Kernel.cfg
  rw [hd]
  exact assertsOk_of_declared _ _ _ _ _ _

/-- transparency also holds when the write trace of no populate destination is collected: then every kernel,
    whatever the shape declarations, is transparent -/
theorem kernel_transparent_untraced (k : Kernel) (z : ATree) (ops : List Operand) (p : String) (keys : List TKey)
    (s₀ : MState) (hw : ∀ v, (v, "populate_write_0") ∉ keys) :
    ∃ s', kernelSession k z ops p keys s₀ = some (runPlain k z ops, s') := by
  apply kernel_transparent_partial
  apply assertsOk_of_untraced
  intro v
  simp only [wtrOf, List.contains_eq_mem, decide_eq_false_iff_not]
  exact hw v

/-- the unrestricted statement is false: **witness** — inserting `a`'s coordinate 1 below the
    element 5 of an output vector created without a shape, while the output's write trace is
    collected, aborts with collection on and runs with collection off. -/
theorem kernel_assert_witness :
    let k : Kernel := { loops := ["K"], out := ["K"], declared := false }
    let z : ATree := ⟨1, [((5 : Int), (1 : Int))]⟩
    let a : Operand := { ranks := ["K"], t := ⟨1, [((1 : Int), (2 : Int))]⟩ }
    (kernelSession k z [a] "p" [("K", "populate_write_0")] MState.init).isNone = true ∧
    (kernelSession k z [a] "p" [("K", "iter")] MState.init).isSome = true ∧
    (show List (Int × Int) from castT 1 (runPlain k z [a]) []) = [((1 : Int), (2 : Int)), ((5 : Int), (1 : Int))] := by
  decide +kernel

/-- every counter after a kernel's session is the total of the kernel's own `incCount` calls -/
theorem kernelSession_count {k : Kernel} {z : ATree} {ops : List Operand} {p : String} {keys : List TKey}
    {s₀ s' : MState} {out : ATree} (h : kernelSession k z ops p keys s₀ = some (out, s')) (line metric : String) :
    count s' line metric = sumInc line metric (callsOf (kernelEvents k z ops)) := by
  obtain ⟨_, _, rs, hrun⟩ := kernelSession_eq_some.1 h
  have hb : ∀ op ∈ keys.map (fun k => MOp.trace k.1 k.2 false) ++ callsOf (kernelEvents k z ops) ++ [MOp.endCollect],
      op.isBegin = false := by
    intro op hop
    simp only [List.mem_append, List.mem_map, List.mem_singleton] at hop
    rcases hop with (⟨k, _, rfl⟩ | hop) | rfl
    · rfl
    · have := kernel_calls_inBody k z ops op hop
      cases op with
      | beginCollect _ => cases this
      | _ => rfl
    · rfl
  rw [dump_counts_exact (some p) _ s₀ s' rs hb hrun, sumInc_append, sumInc_append, sumInc_traces]
  show 0 + _ + 0 = _
  omega

/-- the file of every declared trace after a kernel's session holds one row per `addUse` of the kernel -/
theorem kernelSession_numIters {k : Kernel} {z : ATree} {ops : List Operand} {p : String} {keys : List TKey}
    {s₀ s' : MState} {out : ATree} (h : kernelSession k z ops p keys s₀ = some (out, s'))
    {r ty : String} (hk : (r, ty) ∈ keys) :
    numIters (fileOf s' p r ty) = nUse r ty (callsOf (kernelEvents k z ops)) := by
  obtain ⟨_, _, rs, hrun⟩ := kernelSession_eq_some.1 h
  exact numIters_eq_uses p keys _ s₀ s' rs (kernel_calls_inBody k z ops) hrun r ty hk

/-- **exact counts**: after the collecting session `dump()["Compute"]` shows exactly the payload
    operators the kernel executed, however its innermost statement is spelled (`z += a*b`,
    `z <<= z + a*b`, `t *= b; z += t`): `payload_mul` the `*` and `*=`, `payload_update` the `+=`,
    `<<=` and `*=`, `payload_add` the `+` and the `+=` on an accumulator that already held a non-zero
    value. -/
theorem kernel_counts_exact (k : Kernel) (z : ATree) (ops : List Operand) (p : String) (keys : List TKey)
    (s₀ s' : MState) (out : ATree) (h : kernelSession k z ops p keys s₀ = some (out, s')) :
    count s' "Compute" "payload_mul" = nMul (kernelEvents k z ops) ∧
    count s' "Compute" "payload_update" = nUpd (kernelEvents k z ops) ∧
    count s' "Compute" "payload_add" = nAdd (kernelEvents k z ops) := by
  obtain ⟨b1, b2, b3⟩ := runK_bal k.cfg k.loops k.out z ops
  exact ⟨(kernelSession_count h _ _).trans b1, (kernelSession_count h _ _).trans b2,
    (kernelSession_count h _ _).trans b3⟩

/-- **iteration count = loop bodies** (partial: no rank of format "U"): for every rank traced with the
    "iter" trace — reached by the kernel or not, whatever file an earlier session left —
    `Compute.numIters` of its file is the number of loop bodies the kernel executed at that rank. -/
theorem kernel_numIters_eq_bodies_partial (k : Kernel) (z : ATree) (ops : List Operand) (p : String)
    (keys : List TKey) (s₀ s' : MState) (out : ATree)
    (hU : ∀ o ∈ ops, o.uShape = none)
    (h : kernelSession k z ops p keys s₀ = some (out, s'))
    (r : String) (hk : (r, "iter") ∈ keys) :
    numIters (fileOf s' p r "iter") = nBody r (kernelEvents k z ops) := by
  rw [kernelSession_numIters h hk]
  exact runK_ub k.cfg k.loops k.out z ops hU r

/-- the "U" hypothesis is needed: **witness** — a leaf rank of format "U" and shape 2 runs two loop
    bodies and leaves a header-only "iter" trace. -/
theorem kernel_formatU_witness :
    let k : Kernel := { loops := ["K"], out := [], declared := true }
    let a : Operand := { ranks := ["K"], t := ⟨1, [((0 : Int), (5 : Int))]⟩, uShape := some 2 }
    nBody "K" (kernelEvents k ⟨0, (0 : Int)⟩ [a]) = 2 ∧
    (kernelSession k ⟨0, (0 : Int)⟩ [a] "p" [("K", "iter")] MState.init).map
      (fun x => numIters (fileOf x.2 "p" "K" "iter")) = some 0 := by
  decide +kernel

/-- **session isolation for kernels, counter side** (partial: the collecting-only assertion must not
    fire): from ANY two earlier states (different thresholds, different files, sessions left open, …)
    the collecting session around the same kernel completes with the same tensor, the same value of
    every counter, and the same iteration count in the file of every declared trace. -/
theorem kernel_session_isolated_partial (k : Kernel) (z : ATree) (ops : List Operand) (p : String) (keys : List TKey)
    (s₁ s₂ : MState) (hok : assertsOk (wtrOf keys) (kernelEvents k z ops) = true) :
    ∃ s₁' s₂', kernelSession k z ops p keys s₁ = some (runPlain k z ops, s₁') ∧
      kernelSession k z ops p keys s₂ = some (runPlain k z ops, s₂') ∧
      (∀ line metric, count s₁' line metric = count s₂' line metric) ∧
      (∀ r ty, (r, ty) ∈ keys → numIters (fileOf s₁' p r ty) = numIters (fileOf s₂' p r ty)) := by
  obtain ⟨t1, e1⟩ := kernel_transparent_partial k z ops p keys s₁ hok
  obtain ⟨t2, e2⟩ := kernel_transparent_partial k z ops p keys s₂ hok
  refine ⟨t1, t2, e1, e2, fun line metric => ?_, fun r ty hk => ?_⟩
  · rw [kernelSession_count e1, kernelSession_count e2]
  · rw [kernelSession_numIters e1 hk, kernelSession_numIters e2 hk]

/-! ## non-vacuity: the hypotheses are met by non-trivial values, the conclusions say something -/
section
/-- a state left by an earlier, unfinished session -/
private def dirty : MState :=
  { collecting := true, fiberLabel := [("K", 3)], iteration := some [4], lineOrder := some [("K", 0)],
    loopOrder := some ["K"], metrics := some [("Compute", [("payload_mul", 7)])], point := some [2],
    pfx := some "q", traces := [(("K", "iter"), ⟨some [.dat [1, 2, 3]], none, true⟩)] }

-- beginCollect_const / session_isolated: two very different histories meet the hypotheses
example : dirty.numCachedUses = MState.init.numCachedUses ∧ dirty.fs = MState.init.fs ∧ dirty ≠ MState.init := by decide +kernel
example : step (.beginCollect (some "p")) dirty = step (.beginCollect (some "p")) MState.init :=
  beginCollect_const _ _ _ rfl rfl

/-- a structured session: two traces, a two-level loop nest, counters on a padded line name -/
private def body1 : List MOp :=
  [.registerRank "M", .addUse "M" 0 0 "iter" none, .registerRank "K", .getLabel "K",
   .addUse "K" 3 0 "iter" none, .incCount " Compute " "payload_mul" 1, .incIter "K",
   .addUse "K" 5 1 "iter" none, .incCount "Compute" "payload_mul" 1, .incCount "Compute" "payload_add" 1, .incIter "K",
   .addUse "K" 7 2 "iter" none, .incIter "K", .endIter "K", .incIter "M", .endIter "M"]
private def keys1 : List TKey := [("K", "iter"), ("M", "iter"), ("N", "iter")]
/-- an earlier session: flush threshold 2, the same prefix and trace, one row -/
private def hist1 : List MOp :=
  [.setNumCachedUses 2] ++ openOps "p" [("K", "iter"), ("N", "iter")] ++
    [.registerRank "N", .addUse "N" 1 0 "iter" none, .registerRank "K", .addUse "K" 9 0 "iter" none, .endCollect]

-- dump_counts_exact / numIters_eq_uses: the run exists (from the state the earlier session left:
-- threshold 2, so the three K rows are flushed in two pieces), K is registered, 3 uses, 2 muls
example : ((runOps hist1 MState.init).bind (fun h => runOps (openOps "p" keys1 ++ body1 ++ [.endCollect]) h.2)).map
    (fun x => (numIters (fileOf x.2 "p" "K" "iter"), count x.2 "Compute" "payload_mul",
      -- N is declared but never registered: the earlier session's row is gone, the file is new and empty
      numIters (fileOf x.2 "p" "N" "iter"), fileOf x.2 "p" "N" "iter")) = some (3, 2, 0, []) := by decide +kernel
example : (∀ op ∈ body1, op.inBody = true) ∧ registers "K" body1 = true ∧ nUse "K" "iter" body1 = 3 ∧
    registers "N" body1 = false ∧ sumInc "Compute" "payload_mul" body1 = 2 := by decide +kernel

/-- column sums `Z_k = Σ_m A_mk`: the output fiber is revisited for every `m` -/
private def kCol : Kernel := { loops := ["M", "K"], out := ["K"], declared := true }
private def aCol : Operand :=
  { ranks := ["M", "K"], t := ⟨2, [((0 : Int), [((0 : Int), (1 : Int)), ((1 : Int), (2 : Int))]), ((1 : Int), [((0 : Int), (-1 : Int)), ((2 : Int), (4 : Int))])]⟩ }

-- kernel_transparent_*: the assertion is reached (the output is revisited while non-empty) and passes
example : assertsOk (wtrOf [("K", "populate_write_0")]) (kernelEvents kCol ⟨1, []⟩ [aCol]) = true ∧
    (kernelEvents kCol ⟨1, []⟩ [aCol]).any (fun e => match e with | .assertShape _ _ _ => true | _ => false) = true ∧
    -- the same kernel into an undeclared output: the second row inserts 0 below 1; fine unless the write trace is on
    assertsOk (wtrOf [("K", "iter"), ("K", "populate_read_0")]) (kernelEvents { kCol with declared := false } ⟨1, []⟩ [aCol]) = true ∧
    assertsOk (wtrOf [("K", "populate_write_0")]) (kernelEvents { kCol with declared := false } ⟨1, []⟩ [aCol]) = false := by
  decide +kernel
-- … the sum at k = 0 cancels (1 + -1) and is removed, 4 updates, 1 addition on a non-empty accumulator,
-- 2 bodies at M and 4 at K; the session exists and reports exactly that
example : (show List (Int × Int) from castT 1 (runPlain kCol ⟨1, []⟩ [aCol]) []) = [((1 : Int), (2 : Int)), ((2 : Int), (4 : Int))] ∧
    nUpd (kernelEvents kCol ⟨1, []⟩ [aCol]) = 4 ∧ nAdd (kernelEvents kCol ⟨1, []⟩ [aCol]) = 1 ∧
    nBody "M" (kernelEvents kCol ⟨1, []⟩ [aCol]) = 2 ∧ nBody "K" (kernelEvents kCol ⟨1, []⟩ [aCol]) = 4 := by decide +kernel
example : (kernelSession kCol ⟨1, []⟩ [aCol] "p" [("K", "iter"), ("M", "iter")] dirty).map
    (fun x => (count x.2 "Compute" "payload_update", count x.2 "Compute" "payload_add",
      numIters (fileOf x.2 "p" "K" "iter"), numIters (fileOf x.2 "p" "M" "iter"))) = some (4, 1, 4, 2) := by decide +kernel
-- the same kernel spelled `z <<= z + a` / `t = a; z += t`: other operators, other counts, same theorem
example : (kernelSession { kCol with body := .addAssign } ⟨1, []⟩ [aCol] "p" [] dirty).map
    (fun x => (count x.2 "Compute" "payload_update", count x.2 "Compute" "payload_add", count x.2 "Compute" "payload_mul")) = some (4, 4, 0) ∧
    nAdd (kernelEvents { kCol with body := .addAssign } ⟨1, []⟩ [aCol]) = 4 := by decide +kernel
example : (∀ o ∈ [aCol], o.uShape = none) ∧ registers "K" (callsOf (kernelEvents kCol ⟨1, []⟩ [aCol])) = true := by decide +kernel

/-- matrix multiply `Z_mn = Σ_k A_mk B_kn` in the order M, K, N (intersections are well-founded
    recursions: tested with `#guard`, not `decide`) -/
private def kMM : Kernel := { loops := ["M", "K", "N"], out := ["M", "N"], declared := true }
private def aMM : Operand := { ranks := ["M", "K"], t := ⟨2, [((0 : Int), [((0 : Int), (1 : Int)), ((1 : Int), (2 : Int))]), ((1 : Int), [((1 : Int), (3 : Int))])]⟩ }
private def bMM : Operand := { ranks := ["K", "N"], t := ⟨2, [((0 : Int), [((0 : Int), (1 : Int))]), ((1 : Int), [((0 : Int), (4 : Int)), ((1 : Int), (5 : Int))])]⟩ }
#guard (kernelSession kMM ⟨2, []⟩ [aMM, bMM] "p" [("K", "iter"), ("N", "iter")] MState.init).map
    (fun x => (count x.2 "Compute" "payload_mul", count x.2 "Compute" "payload_update", count x.2 "Compute" "payload_add",
      numIters (fileOf x.2 "p" "K" "iter"), numIters (fileOf x.2 "p" "N" "iter"))) == some (5, 5, 1, 3, 5)
#guard nMul (kernelEvents kMM ⟨2, []⟩ [aMM, bMM]) == 5 && nBody "N" (kernelEvents kMM ⟨2, []⟩ [aMM, bMM]) == 5 &&
  assertsOk (wtrOf []) (kernelEvents kMM ⟨2, []⟩ [aMM, bMM])
-- the same kernel into an output created without a shape runs as well (it only appends), with every trace on
#guard (kernelSession { kMM with declared := false } ⟨2, []⟩ [aMM, bMM] "p" [("N", "populate_write_0"), ("N", "iter")] MState.init).isSome
end

end Ft.C15
