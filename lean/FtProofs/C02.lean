/-
  C02 — a tensor's rank bookkeeping always mirrors its fibertree.
  Property theorems only; helpers in FtProofs/Lemmas/{RankLemmas,PopRankLemmas}.lean.
  A fiber is identified by its coordinate path from the root (unique in a well-formed tree);
  `Mirror d t R` says that rank `i` lists exactly the fibers found at depth `i`.
-/
import FtProofs.Lemmas.RankLemmas
import FtProofs.Lemmas.PopRankLemmas
import FtProofs.C01
set_option linter.unusedSectionVars false
namespace Ft
open StrictTotal
open List

section
variable {κ ν : Type} [LT κ] [DecidableRel (α := κ) (· < ·)] [DecidableEq κ] [StrictTotal κ]

/-- **constructors** (`setRoot` → `_addFiber`, used by fromFiber / fromUncompressed / fromRandom /
    fromYAMLfile / deepcopy / every transform's result): depth-first registration is a mirror -/
theorem ctor_mirror (d : Nat) (t : Tree κ ν d) : Mirror d t (regAll d t) := by
  -- `regAll d t` is `pathsAt d t` mapped over `range d`: it has `d` entries and entry `i` is `pathsAt d t i` itself
  refine ⟨by simp [regAll], ?_⟩
  intro i hi
  simp [regAll, List.getD_eq_getElem?_getD, hi]

/-- **insertion at any depth** (`getPayloadRef`, and hence `getPositionRef` and dense reference
    iteration, which are sequences of it): creating the missing path and appending each created
    fiber to the rank below its parent keeps the mirror -/
theorem insert_mirror (dflt : ν) (d : Nat) (t : Tree κ ν d) (R : RankLists κ) (p : List κ)
    (h : WF d t) (hm : Mirror d t R) :
    Mirror d (refStepR dflt d t R p).1 (refStepR dflt d t R p).2 := by
  obtain ⟨hlen, hperm⟩ := hm
  refine ⟨by simp only [refStepR]; rw [foldl_regAppend_length, hlen], ?_⟩
  intro i hi
  simp only [refStepR]
  rw [foldl_regAppend_getD _ R i (by rw [hlen]; exact hi)]
  exact ((hperm i hi).append_right _).trans (pathsAt_refAt dflt d t h p i).symm

/-- **clearing** the fiber at any path, unregistering the fibers below it, keeps the mirror -/
theorem clear_mirror (d : Nat) (t : Tree κ ν (d + 1)) (R : RankLists κ) (q : List κ)
    (h : WF (d + 1) t) (hm : Mirror (d + 1) t R) :
    Mirror (d + 1) (clearStepR d t R q).1 (clearStepR d t R q).2 := by
  obtain ⟨hlen, hperm⟩ := hm
  refine ⟨by simp [clearStepR, unregBelow, hlen], ?_⟩
  intro i hi
  simp only [clearStepR]
  rw [show (unregBelow R q).getD i [] = _ from List.getD_map R _ [] (hlen ▸ hi)]
  have := pathsAt_clear d t h q i
  unfold clrF at this
  rw [this]
  exact (hperm i hi).filter _

theorem rankStep_wf (dflt : ν) (d : Nat) (s : Tree κ ν (d + 1) × RankLists κ) (op : RankOp κ)
    (h : WF (d + 1) s.1) : WF (d + 1) (rankStep dflt d s op).1 := by
  cases op with
  | ref p => exact refAt_wf dflt (d + 1) s.1 h p
  | clear q =>
    exact atPath_wf (fun _ _ => (([] : List _), Outcome.ok)) (fun _ _ _ => ⟨List.Pairwise.nil, fun _ hx => nomatch hx⟩)
      d s.1 q h

/-- **histories**: after any sequence of insertions and clears, from any mirrored state, every
    rank still lists exactly the live fibers of its depth -/
theorem rank_run_mirror (dflt : ν) (d : Nat) : ∀ (ops : List (RankOp κ)) (s : Tree κ ν (d + 1) × RankLists κ),
    WF (d + 1) s.1 → Mirror (d + 1) s.1 s.2 →
    Mirror (d + 1) (rankRun dflt d s ops).1 (rankRun dflt d s ops).2 ∧ WF (d + 1) (rankRun dflt d s ops).1 := by
  intro ops
  induction ops with
  | nil => exact fun _ h hm => ⟨hm, h⟩
  | cons op ops ih =>
    intro s h hm
    refine ih _ (rankStep_wf dflt d s op h) ?_
    cases op with
    | ref p => exact insert_mirror dflt (d + 1) s.1 s.2 p h hm
    | clear q => exact clear_mirror d s.1 s.2 q h hm

/-- **derived quantities**: anything summed over a rank's list (per-rank footprint, statistics)
    equals the same sum over the fibers a raw walk finds at that depth -/
theorem derived_from_ranks (d : Nat) (t : Tree κ ν d) (R : RankLists κ) (hm : Mirror d t R)
    (w : List κ → Nat) (i : Nat) (hi : i < d) :
    ((R.getD i []).map w).sum = ((pathsAt d t i).map w).sum :=
  ((hm.2 i hi).map w).sum_nat

/-- the first rank holds the root and nothing else -/
theorem root_rank (d : Nat) (t : Tree κ ν (d + 1)) (R : RankLists κ) (hm : Mirror (d + 1) t R) :
    R.getD 0 [] = [[]] := by
  have := hm.2 0 (Nat.succ_pos d)
  rw [pathsAt_zero] at this
  exact List.perm_singleton.1 this

end

section
private def tEx : Tree Int Int 3 := [(0, [(1, [(2, (5 : Int))]), (4, [])]), (3, [])]
example : WF 3 tEx := (wfB_iff 3 tEx).1 (by decide)
example : Mirror 3 tEx (regAll 3 tEx) := ctor_mirror 3 tEx
#guard regAll 3 tEx == [[[]], [[0], [3]], [[0, 1], [0, 4]]]
#guard (refStepR 0 3 tEx (regAll 3 tEx) [3, 7, 1]).2 == [[[]], [[0], [3]], [[0, 1], [0, 4], [3, 7]]]
#guard (refStepR 0 3 tEx (regAll 3 tEx) [9, 9, 9]).2 == [[[]], [[0], [3], [9]], [[0, 1], [0, 4], [9, 9]]]
#guard mirrorB 3 (refStepR 0 3 tEx (regAll 3 tEx) [9, 9, 9]).1 (refStepR 0 3 tEx (regAll 3 tEx) [9, 9, 9]).2
#guard (clearStepR 2 tEx (regAll 3 tEx) [0]).2 == [[[]], [[0], [3]], []]
#guard !mirrorB 3 (clearStepR 2 tEx (regAll 3 tEx) [0]).1 (regAll 3 tEx)
end
end Ft

namespace Ft
open StrictTotal
open List
section
variable {ν : Type} [DecidableEq ν]

/-- **fiber assignment** (`f <<= g` at any fiber of the tensor): unregistering what was below and
    registering the fibers of the assigned copy keeps the mirror -/
theorem assign_mirror (dflt : ν) (d : Nat) (t : Tree Int ν (d + 1)) (R : RankLists Int) (q : List Int)
    (g : TreeArg ν) (h : WF (d + 1) t) (hm : Mirror (d + 1) t R) :
    Mirror (d + 1) (assignStepR dflt d t R q g).1 (assignStepR dflt d t R q g).2 := by
  unfold assignStepR
  cases hloc : locate d t q with
  | none => exact hm
  | some x =>
    obtain ⟨d', s⟩ := x
    exact replace_mirror (fiberStep dflt (.assignF q g)) d t R q d' s h hm hloc

/-- **populate loops** (`z << a` at any fiber of the tensor, nested to any depth, with bodies that write
    leaves, recurse, skip or only touch the offered sub-fibers): the loop never loses a fiber that was
    there, and with the fibers it created and kept appended to their ranks — what `_create_payload`'s
    `Rank.append` and the clean-up's `Rank.pop` leave behind — the bookkeeping stays a mirror -/
theorem populate_mirror (dflt : ν) (d : Nat) (t : Tree Int ν (d + 1)) (R : RankLists Int) (q : List Int)
    (a : TreeArg ν) (leafF : List Int → ν → ν → ν) (inner : List Int → Inner Int)
    (ha : a.WFArg) (h : WF (d + 1) t) (hm : Mirror (d + 1) t R) :
    Mirror (d + 1) (populateStepR dflt d t R q a leafF inner).1 (populateStepR dflt d t R q a leafF inner).2 := by
  unfold populateStepR
  cases hloc : locate d t q with
  | none => exact hm
  | some x =>
    obtain ⟨d', s⟩ := x
    have hs : WF (d' + 1) s := locate_wf d t h q d' s hloc
    refine grow_mirror (fiberStep dflt (.populate q a leafF inner)) d t R q d' s h hm hloc
      (fiberStep_wf dflt (.populate q a leafF inner) ha d' s hs) ?_
    intro j p hp
    simp only [fiberStep]
    cases hg : a.get (d' + 1) with
    | none => exact hp
    | some x => exact popNest_keeps_paths dflt leafF inner d' [] s x hs (ha _ _ hg) j p hp

/-- populate never removes or re-creates a fiber that existed before the loop -/
theorem populate_keeps_fibers (dflt : ν) (leafF : List Int → ν → ν → ν) (inner : List Int → Inner Int)
    (d : Nat) (pre : List Int) (z a : Tree Int ν (d + 1)) (hz : WF (d + 1) z) (ha : WF (d + 1) a) (j : Nat)
    (p : List Int) (hp : p ∈ pathsAt (d + 1) z j) : p ∈ pathsAt (d + 1) (popNest dflt leafF inner d pre z a) j :=
  popNest_keeps_paths dflt leafF inner d pre z a hz ha j p hp

/-! non-vacuity of `populate_mirror`: a nested loop that creates [0,2], and creates and drops [5] and [5,0] -/
private def popT : Tree Int Int 3 := [(0, [(1, [(2, (5 : Int))])]), (3, [])]
private def popA : TreeArg Int := ⟨fun k => match k with
  | 3 => some ([(0, [(1, [(4, (1 : Int))]), (2, [(0, (1 : Int))])]), (5, [(0, [(0, (2 : Int))])])] : Tree Int Int 3)
  | _ => none⟩
private def popR := populateStepR (0 : Int) 2 popT (regAll 3 popT) [] popA (fun _ cur a => cur + a)
  (fun p => if p == [5, 0] then Inner.skip else Inner.recurse)
#guard wfB 3 popT && (locate 2 popT []).isSome
#guard popR.2 == [[[]], [[0], [3]], [[0, 1], [0, 2]]]
#guard mirrorB 3 popR.1 popR.2 && !mirrorB 3 popR.1 (regAll 3 popT)

end
end Ft
