/-
  C07 — every traversal mode enumerates exactly the slice of content it names.
  Property theorems only; helper lemmas live in FtProofs/Lemmas/Traverse.lean
  (namespace `Ft.C07`, model in FtModel/Traverse.lean).
-/
import FtProofs.Lemmas.Traverse
import FtProofs.C12
set_option linter.unusedSectionVars false
namespace Ft
open StrictTotal Ft.C07

section range
variable {κ : Type} [LT κ] [DecidableRel (α := κ) (· < ·)] [DecidableEq κ] [StrictTotal κ]
variable {π : Type}

/-- **`iterRange(start, end)`** on a sorted fiber yields precisely the non-empty elements with
    `start <= coord < end` (either bound may be `None`), in ascending order, each once. -/
theorem iterRange_spec (emp : π → Bool) (s e : Option κ) (f : Fib κ π) (hs : Sorted f) :
    strip (iterRange emp s e none f) = rangeSpec emp s e f := by
  rw [iterRange_eq_filter emp s e none hs]
  exact (strip_filter (inSlice emp s e) (withPos f)).trans (congrArg _ (strip_withPos f))

/-- What `iterRange` yields are the fiber's own payloads: a yield tagged with position `i` is
    the element stored at `i` (this is also the position `setSavedPos` records). -/
theorem iterRange_yields_own_payloads (emp : π → Bool) (s e : Option κ) (sp : Option Nat) (f : Fib κ π)
    (c : κ) (i : Nat) (p : π) (h : (c, (i, p)) ∈ iterRange emp s e sp f) : f[i]? = some (c, p) :=
  mem_withPos_iff.1 (List.mem_of_mem_drop ((rangeLoop_sublist _ s e _).subset h))

/-- **a valid saved-position shortcut never changes what is yielded**: if no element before
    `start_pos` belongs to the slice, the traversal from `start_pos` yields the same elements
    (same payload objects, same positions). -/
theorem iterRange_startpos (emp : π → Bool) (s e : Option κ) (sp : Nat) (f : Fib κ π) (hs : Sorted f)
    (hv : validStart emp s e sp f = true) :
    iterRange emp s e (some sp) f = iterRange emp s e none f := by
  rw [iterRange_eq_filter emp s e (some sp) hs, iterRange_eq_filter emp s e none hs, Option.getD_some,
    Option.getD_none, List.drop_zero]
  unfold validStart at hv
  rw [Bool.and_eq_true, List.all_eq_true] at hv
  -- the skipped prefix holds nothing of the slice
  have hpre : ((withPos f).take sp).filter (fun x => inSlice emp s e (x.1, x.2.2)) = [] :=
    List.filter_eq_nil_iff.2 fun x hx => by simpa using hv.2 _ (mem_take_withPos hx)
  conv => rhs; rw [← List.take_append_drop sp (withPos f), List.filter_append, hpre]
  rfl

/-- the positions a traversal saves are valid shortcuts for every later slice that begins at
    or after the coordinate yielded there (how `getSavedPos()` is meant to be used). -/
theorem iterRange_saved_valid (emp : π → Bool) (s e : Option κ) (sp : Option Nat) (f : Fib κ π) (hs : Sorted f)
    (c : κ) (i : Nat) (p : π) (h : (c, (i, p)) ∈ iterRange emp s e sp f)
    (s' : κ) (e' : Option κ) (hle : ¬ s' < c) : validStart emp (some s') e' i f = true := by
  have hi := iterRange_yields_own_payloads emp s e sp f c i p h
  unfold validStart
  rw [Bool.and_eq_true, List.all_eq_true]
  refine ⟨by simpa using (List.getElem?_eq_some_iff.1 hi).1, fun x hx => ?_⟩
  -- what lies before position `i` lies below `c`, hence below the new start
  have hlt : x.1 < c := sorted_take_lt hs hi x hx
  have : geStart (some s') x.1 = false := by
    simp only [geStart, Bool.not_eq_false', decide_eq_true_eq]
    rcases tri x.1 s' with h1 | h1 | h1
    · exact h1
    · subst h1; exact absurd hlt hle
    · exact absurd (trans h1 hlt) hle
  simp [inSlice, this]

/-- **`iterOccupancy()`** (= `iterRange(None, None)`): the non-empty elements in storage order;
    no ordering assumption is needed because nothing is clipped. -/
theorem iterOccupancy_spec (emp : π → Bool) (f : Fib κ π) :
    strip (iterRange emp none none none f) = f.filter (fun x => !emp x.2) := by
  unfold iterRange
  rw [rangeLoop_none]
  exact (strip_filter (fun x => !emp x.2) (withPos f)).trans (congrArg _ (strip_withPos f))

/-- **`reversed(fiber)`** (and `reversed(tensor)`, which forwards to the root): every stored element,
    its own payload at its own position, in reversed storage order. -/
theorem reversed_spec (f : Fib κ π) :
    strip (reversedIter f) = f.reverse ∧
    ∀ c i p, (c, (i, p)) ∈ reversedIter f → f[i]? = some (c, p) := by
  refine ⟨?_, ?_⟩
  · unfold reversedIter strip
    rw [List.map_reverse]
    exact congrArg List.reverse (strip_withPos f)
  · intro c i p h
    exact mem_withPos_iff.1 (List.mem_reverse.1 h)

end range

/-- on trees: default iteration of a compressed rank presents `present` (the notion C04, C05
    and C12 are stated with). -/
theorem iterOccupancy_eq_present {ν : Type} [DecidableEq ν] (dflt : ν) (d : Nat) (f : Tree Int ν (d + 1)) :
    strip (iterRange (isEmpty dflt d) none none none (show List (Int × Tree Int ν d) from f)) = present dflt d f :=
  iterOccupancy_spec (isEmpty dflt d) _

section shape
variable {π : Type}

/-- **`iterRangeShape(start, end, step)`** (and `iterShape` / `iterActiveShape`, which call it with
    `(0, shape)` / the active range): every coordinate of the range, in order, with the stored
    payload (and its position) or the default standing in for an absent one. -/
theorem iterRangeShape_spec (mk : π) (f : Fib Int π) (hs : Sorted f) (s e : Int) (k : Nat) :
    shapeIter mk f (pyRange s e k) = shapeSpec mk f (pyRange s e k) :=
  shapeIter_eq_spec mk hs _

/-- what "the stored payload or the default" means: the payload component is `lookup` or the
    default; a position component `some i` points at that very element, `none` means absent. -/
theorem shapeSpec_row (mk : π) (f : Fib Int π) (c : Int) :
    (lookupPos mk f c).2 = (lookup f c).getD mk ∧
    (∀ i, (lookupPos mk f c).1 = some i → f[i]? = some (c, (lookupPos mk f c).2)) ∧
    ((lookupPos mk f c).1 = none → lookup f c = none) := by
  unfold lookupPos
  rw [← lookup_withPos_map f c]
  cases hl : lookup (withPos f) c with
  | none =>
    refine ⟨rfl, ?_, fun _ => rfl⟩
    intro i h
    cases h
  | some ip =>
    refine ⟨rfl, ?_, ?_⟩
    · intro i h
      cases h
      exact mem_withPos_iff.1 (mem_of_lookup_eq_some hl)
    · intro h
      cases h

/-- the coordinates of the range: `start, start+step, …` below `end`, strictly ascending. -/
theorem pyRange_spec (s e : Int) (k : Nat) :
    (∀ c, c ∈ pyRange s e k ↔ 0 < k ∧ c < e ∧ ∃ n : Nat, c = s + n * k) ∧
    (pyRange s e k).Pairwise (· < ·) :=
  ⟨mem_pyRange s e k, pyRange_ascending s e k⟩

/-- a negative step: `range(s, e, -k)` is `s, s-k, …` above `e`, strictly descending (the shape
    and Ref theorems hold for any coordinate list, hence for these too). -/
theorem pyRangeDown_spec (s e : Int) (k : Nat) :
    (∀ c, c ∈ pyRangeDown s e k ↔ 0 < k ∧ e < c ∧ ∃ n : Nat, c = s - n * k) ∧
    (pyRangeDown s e k).Pairwise (· > ·) := by
  -- the mirror image of an ascending range
  rw [pyRangeDown_eq_neg]
  refine ⟨fun c => ?_, ?_⟩
  · have : c ∈ (pyRange (-s) (-e) k).map (- ·) ↔ -c ∈ pyRange (-s) (-e) k := by
      rw [List.mem_map]
      constructor
      · rintro ⟨a, ha, rfl⟩; rwa [Int.neg_neg]
      · intro h; exact ⟨-c, h, Int.neg_neg c⟩
    rw [this, mem_pyRange]
    exact and_congr_right fun _ => and_congr Int.neg_lt_neg_iff (exists_congr fun n =>
      ⟨fun h => by rw [← Int.neg_neg c, h, Int.neg_add, Int.neg_neg, Int.sub_eq_add_neg],
       fun h => by rw [h, Int.neg_sub, Int.sub_eq_add_neg, Int.add_comm]⟩)
  · rw [List.pairwise_map]
    exact (pyRange_ascending _ _ k).imp Int.neg_lt_neg

/-- the extent of an undeclared rank (what `iterShape*` / the default active range of every fiber
    of that rank use): the largest non-zero estimate `last coordinate + 1` over the rank's fibers —
    so a narrow fiber of a ragged rank is iterated over the rank's full width; `none` (each fiber
    falls back to its own estimate) iff every fiber of the rank is empty. -/
theorem rankExtent_spec (sibs : List (Fib Int π)) :
    match rankExtent sibs with
    | none => ∀ g ∈ sibs, estShape g = 0
    | some n => n ≠ 0 ∧ (∀ g ∈ sibs, estShape g = 0 ∨ estShape g ≤ n) ∧ ∃ g ∈ sibs, estShape g = n := by
  -- fibers are appended one at a time, and the statement is its own invariant
  induction hr : sibs.reverse generalizing sibs with
  | nil =>
    obtain rfl : sibs = [] := List.reverse_eq_nil_iff.1 hr
    intro g hg; cases hg
  | cons g r ih =>
    obtain rfl : sibs = r.reverse ++ [g] := by rw [← List.reverse_reverse sibs, hr, List.reverse_cons]
    have ih := ih r.reverse (List.reverse_reverse r)
    generalize r.reverse = l at ih ⊢
    have hmem : ∀ {Q : Fib Int π → Prop}, (∀ y ∈ l, Q y) → Q g → ∀ y ∈ l ++ [g], Q y := by
      intro Q h1 h2 y hy
      rcases List.mem_append.1 hy with hy | hy
      · exact h1 y hy
      · rw [List.mem_singleton.1 hy]; exact h2
    have hg : g ∈ l ++ [g] := List.mem_append_right _ (List.mem_singleton.2 rfl)
    rw [rankExtent_snoc]
    generalize rankExtent l = res at ih ⊢
    by_cases h0 : estShape g = 0
    · rw [if_pos h0]
      cases res with
      | none => exact hmem ih h0
      | some n =>
        obtain ⟨hn, hle, x, hx, hxn⟩ := ih
        exact ⟨hn, hmem hle (Or.inl h0), x, List.mem_append_left _ hx, hxn⟩
    · rw [if_neg h0]
      cases res with
      | none => exact ⟨h0, hmem (fun y hy => Or.inl (ih y hy)) (Or.inr (Int.le_refl _)), g, hg, rfl⟩
      | some o =>
        obtain ⟨ho, hle, x, hx, hxo⟩ := ih
        dsimp only
        by_cases hlt : o < estShape g
        · rw [if_pos hlt]
          exact ⟨h0, hmem (fun y hy => (hle y hy).imp_right fun h => Int.le_trans h (Int.le_of_lt hlt))
            (Or.inr (Int.le_refl _)), g, hg, rfl⟩
        · rw [if_neg hlt]
          exact ⟨ho, hmem hle (Or.inr (Int.not_lt.1 hlt)), x, List.mem_append_left _ hx, hxo⟩

/-- the wrappers' ranges: `iterShape*` visits exactly `0 <= c < shape`, `iterActiveShape*`
    exactly the active range (declared, or `(0, shape)` with an unknown shape estimated from the
    last coordinate). -/
theorem wrapper_ranges (cfg : Cfg) (f : Fib Int π) (c : Int) :
    (c ∈ wrapCoords .shape cfg f ↔ 0 ≤ c ∧ c < getShape cfg f) ∧
    (c ∈ wrapCoords .active cfg f ↔ (getActive cfg f).1 ≤ c ∧ c < (getActive cfg f).2) :=
  ⟨mem_pyRange_one _ _ c, mem_pyRange_one _ _ c⟩

/-- **reference variants insert exactly the visited absent coordinates**: after
    `iterRangeShapeRef` over the coordinates `cs` the fiber is sorted, holds every original
    element unchanged, holds the default at every visited coordinate that was absent, and nothing
    else; the yields are those of the plain traversal. -/
theorem iterRangeShapeRef_inserts_exactly (mk : π) (f : Fib Int π) (hs : Sorted f) (cs : List Int) :
    Sorted (shapeRefLoop mk f cs).1 ∧
    (∀ c, lookup (shapeRefLoop mk f cs).1 c = refExpect mk f cs c) ∧
    (shapeRefLoop mk f cs).2 = cs.map (fun c => (c, (lookup f c).getD mk)) := by
  induction cs generalizing f with
  | nil =>
    refine ⟨hs, fun c => ?_, rfl⟩
    unfold refExpect shapeRefLoop
    cases lookup f c <;> simp
  | cons c cs ih =>
    obtain ⟨h1, h2, h3⟩ := ih (posrefF mk f c) (posrefF_sorted mk f c hs)
    unfold shapeRefLoop
    refine ⟨h1, fun x => ?_, ?_⟩
    · show lookup (shapeRefLoop mk (posrefF mk f c) cs).1 x = _
      rw [h2 x]
      unfold refExpect
      rw [lookup_posrefF mk hs]
      by_cases hx : x = c
      · subst hx
        cases hl : lookup f x <;> simp
      · simp only [hx, if_false, List.mem_cons, false_or]
    · show (c, (posLookup f c).getD mk) :: (shapeRefLoop mk (posrefF mk f c) cs).2 = _
      rw [h3, posLookup_eq_lookup hs, List.map_cons]
      exact congrArg (List.cons _) (List.map_congr_left fun x _ => by rw [lookup_posrefF_getD mk hs])

/-- The executable form `refSpecB` of `iterRangeShapeRef_inserts_exactly` accepts the model's result. -/
theorem iterRangeShapeRef_specB_sound [DecidableEq π] (mk : π) (f : Fib Int π) (hs : Sorted f) (cs : List Int) :
    refSpecB mk f cs (shapeRefLoop mk f cs).1 = true := by
  obtain ⟨h1, h2, _⟩ := iterRangeShapeRef_inserts_exactly mk f hs cs
  unfold refSpecB
  rw [Bool.and_eq_true, List.all_eq_true]
  exact ⟨(sortedB_iff _).2 h1, fun c _ => by simpa using h2 c⟩

/-- `refSpecB` accepts nothing but the model's result (so checking it on the implementation's fiber is the same test as
    comparing with the model). -/
theorem iterRangeShapeRef_specB_complete [DecidableEq π] (mk : π) (f : Fib Int π) (hs : Sorted f) (cs : List Int)
    (out : Fib Int π) (h : refSpecB mk f cs out = true) : out = (shapeRefLoop mk f cs).1 := by
  obtain ⟨h1, h2, _⟩ := iterRangeShapeRef_inserts_exactly mk f hs cs
  unfold refSpecB at h
  rw [Bool.and_eq_true, List.all_eq_true] at h
  obtain ⟨hso, hall⟩ := h
  have hso := (sortedB_iff _).1 hso
  apply hso.eq_of_lookup_eq h1
  intro c
  rw [h2 c]
  by_cases hk : c ∈ out.map (·.1) ++ f.map (·.1) ++ cs
  · simpa using hall c hk
  · simp only [List.mem_append, List.mem_map, not_or, not_exists, not_and] at hk
    have e1 : lookup out c = none := lookup_none_of_not_hasKey (fun ⟨x, hx, h⟩ => hk.1.1 x hx h)
    have e2 : lookup f c = none := lookup_none_of_not_hasKey (fun ⟨x, hx, h⟩ => hk.1.2 x hx h)
    simp [refExpect, e1, e2, hk.2]

/-- **repeatable**: a second reference traversal of the same range inserts nothing more and
    yields the same (coordinate, payload) list. -/
theorem iterRangeShapeRef_reiterable (mk : π) (f : Fib Int π) (hs : Sorted f) (cs : List Int) :
    shapeRefLoop mk (shapeRefLoop mk f cs).1 cs = shapeRefLoop mk f cs := by
  obtain ⟨h1, h2, h3⟩ := iterRangeShapeRef_inserts_exactly mk f hs cs
  obtain ⟨k1, k2, k3⟩ := iterRangeShapeRef_inserts_exactly mk _ h1 cs
  refine Prod.ext (k1.eq_of_lookup_eq h1 fun c => ?_) ?_
  · -- every coordinate of `cs` is stored by now, so nothing is expected beyond what is there
    rw [k2 c]
    unfold refExpect
    cases hl : lookup (shapeRefLoop mk f cs).1 c with
    | some _ => rfl
    | none =>
      by_cases hc : c ∈ cs
      · exact absurd (h2 c ▸ hl) (refExpect_ne_none hc)
      · exact if_neg hc
  · rw [k3, h3]
    exact List.map_congr_left fun c _ => by rw [h2 c, refExpect_getD]

/-- **`coiterRangeShape`** (and `coiterShape` / `coiterActiveShape`): every coordinate of the
    range with the tuple of the fibers' stored-or-default payloads. -/
theorem coiterRangeShape_spec (mk : π) (fs : List (Fib Int π)) (hs : ∀ f ∈ fs, Sorted f) (s e : Int) (k : Nat) :
    coShape mk fs (pyRange s e k) = coShapeSpec mk fs (pyRange s e k) :=
  List.map_congr_left fun c _ => by
    rw [List.map_congr_left fun f hf => getPos_eq_lookupPos mk (hs f hf) c]

/-- **`coiterRangeShapeRef`**: each fiber ends up exactly as after its own single-fiber
    reference traversal (hence: original plus exactly the visited absent coordinates), and the
    yields are the tuples of stored-or-default payloads. -/
theorem coiterRangeShapeRef_spec (mk : π) (fs : List (Fib Int π)) (hs : ∀ f ∈ fs, Sorted f) (cs : List Int) :
    (coShapeRefLoop mk fs cs).1 = fs.map (fun f => (shapeRefLoop mk f cs).1) ∧
    (coShapeRefLoop mk fs cs).2 = cs.map (fun c => (c, fs.map (fun f => (lookup f c).getD mk))) := by
  induction cs generalizing fs with
  | nil => exact ⟨(List.map_id' fs).symm, rfl⟩
  | cons c cs ih =>
    obtain ⟨h1, h2⟩ := ih (fs.map (fun f => posrefF mk f c)) (fun g hg => by
      obtain ⟨f, hf, rfl⟩ := List.mem_map.1 hg
      exact posrefF_sorted mk f c (hs f hf))
    unfold coShapeRefLoop
    rw [coRefStep_eq]
    refine ⟨?_, ?_⟩
    · show (coShapeRefLoop mk (fs.map (fun f => posrefF mk f c)) cs).1 = _
      rw [h1, List.map_map]
      exact List.map_congr_left fun f _ => rfl
    · show (c, fs.map (fun f => (posLookup f c).getD mk)) ::
        (coShapeRefLoop mk (fs.map (fun f => posrefF mk f c)) cs).2 = _
      have e1 : fs.map (fun f => (posLookup f c).getD mk) = fs.map (fun f => (lookup f c).getD mk) :=
        List.map_congr_left fun f hf => by rw [posLookup_eq_lookup (hs f hf)]
      -- `getPayloadRef(c)` changes no stored-or-default payload of any fiber
      have e2 : ∀ x, (fs.map (fun f => posrefF mk f c)).map (fun f => (lookup f x).getD mk) =
          fs.map (fun f => (lookup f x).getD mk) := fun x => by
        rw [List.map_map]
        exact List.map_congr_left fun f hf => lookup_posrefF_getD mk (hs f hf) c x
      rw [h2, e1]
      simp only [e2, List.map_cons]

/-- **lazily produced fibers can be iterated repeatedly**: the lazy fiber returned by
    `coiterRangeShapeRef` mutates its operands on the first traversal; a second traversal
    (a fresh iterator instance on the mutated operands) yields the identical list and changes
    nothing further. -/
theorem coiterRangeShapeRef_reiterable (mk : π) (fs : List (Fib Int π)) (hs : ∀ f ∈ fs, Sorted f) (cs : List Int) :
    coShapeRefLoop mk (coShapeRefLoop mk fs cs).1 cs = coShapeRefLoop mk fs cs := by
  obtain ⟨h1, h2⟩ := coiterRangeShapeRef_spec mk fs hs cs
  have hs2 : ∀ g ∈ (coShapeRefLoop mk fs cs).1, Sorted g := by
    rw [h1]; intro g hg
    obtain ⟨f, hf, rfl⟩ := List.mem_map.1 hg
    exact (iterRangeShapeRef_inserts_exactly mk f (hs f hf) cs).1
  obtain ⟨k1, k2⟩ := coiterRangeShapeRef_spec mk _ hs2 cs
  apply Prod.ext
  · rw [k1, h1, List.map_map]
    exact List.map_congr_left fun f hf => congrArg Prod.fst (iterRangeShapeRef_reiterable mk f (hs f hf) cs)
  · rw [k2, h2, h1]
    refine List.map_congr_left fun c _ => ?_
    rw [List.map_map]
    exact congrArg (Prod.mk c) (List.map_congr_left fun f hf => by
      show (lookup (shapeRefLoop mk f cs).1 c).getD mk = _
      rw [(iterRangeShapeRef_inserts_exactly mk f (hs f hf) cs).2.1 c, refExpect_getD])

end shape

section dispatch
variable {π : Type}

/-- **`__iter__`** on a compressed rank ("C") is occupancy iteration — the non-empty elements,
    each with its storage position; on an uncompressed rank ("U") it is dense iteration of the
    active range — every coordinate with the stored payload or the default.  A valid shortcut
    (only empty elements before it) changes nothing; "U" ignores the shortcut altogether. -/
theorem iter_dispatch (emp : π → Bool) (mk : π) (cfg : Cfg) (sp : Option Nat) (f : Fib Int π) (hs : Sorted f)
    (hv : ∀ i, sp = some i → cfg.fmt = .U ∨ validStart emp none none i f = true) :
    iterDefault emp mk cfg sp f = iterDefaultSpec emp mk cfg f ∧
    iterDefaultSpec emp mk cfg f =
      (match cfg.fmt with
       | .C => stored ((withPos f).filter (fun x => !emp x.2.2))
       | .U => shapeSpec mk f (pyRange (getActive cfg f).1 (getActive cfg f).2 1)) := by
  refine ⟨?_, by unfold iterDefaultSpec; cases cfg.fmt <;> rfl⟩
  cases hf : cfg.fmt with
  | U => exact iterDefault_U emp mk hf hs sp
  | C =>
    have h0 : iterDefault emp mk cfg none f = iterDefaultSpec emp mk cfg f := by
      rw [iterDefault_C emp mk hf, iterDefaultSpec_C emp mk hf]; rfl
    cases sp with
    | none => exact h0
    | some i =>
      rcases hv i rfl with h | h
      · rw [hf] at h; cases h
      · rw [← h0]
        unfold iterDefault
        rw [hf]
        exact congrArg stored (iterRange_startpos emp none none i f hs h)

/-- the two modes agree on what is there: the non-empty part of the dense traversal of `[a, b)`
    is the occupancy traversal clipped to `[a, b)` (same payload objects, same positions). -/
theorem shape_nonempty_is_range (emp : π → Bool) (mk : π) (hmk : emp mk = true) (f : Fib Int π) (hs : Sorted f)
    (a b : Int) :
    (shapeSpec mk f (pyRange a b 1)).filter (fun x => !emp x.2.2) =
      stored (rangeSpec (fun ip : Nat × π => emp ip.2) (some a) (some b) (withPos f)) := by
  have hw := withPos_sorted hs
  have hrow : ∀ x ∈ withPos f, lookupPos mk f x.1 = (some x.2.1, x.2.2) := by
    intro x hx
    unfold lookupPos
    rw [lookup_of_sorted_mem hw hx]
  have hin : ∀ x : Int × (Nat × π), inSlice (fun ip : Nat × π => emp ip.2) (some a) (some b) x = true ↔
      emp x.2.2 = false ∧ a ≤ x.1 ∧ x.1 < b := by
    intro x
    simp [inSlice_bounds, inIv]
  -- both sides are ascending: compare their elements
  refine ((shapeSpec_sorted mk f (pyRange_ascending a b 1)).filter _).eq_of_mem_iff
    (stored_sorted (hw.filter _)) fun r => ⟨fun hr => ?_, fun hr => ?_⟩
  · obtain ⟨hr1, hr2⟩ := List.mem_filter.1 hr
    obtain ⟨c, hc, rfl⟩ := List.mem_map.1 hr1
    -- a non-empty payload is not the default, so the coordinate is stored
    cases hl : lookup (withPos f) c with
    | none =>
      have : (lookupPos mk f c).2 = mk := by unfold lookupPos; rw [hl]
      simp [this, hmk] at hr2
    | some ip =>
      have hx := mem_of_lookup_eq_some hl
      rw [hrow _ hx] at hr2 ⊢
      exact List.mem_map.2 ⟨(c, ip), List.mem_filter.2
        ⟨hx, (hin _).2 ⟨(Bool.not_eq_true' _).mp hr2, (mem_pyRange_one a b c).1 hc⟩⟩, rfl⟩
  · obtain ⟨x, hx, rfl⟩ := List.mem_map.1 hr
    obtain ⟨hx1, hx2⟩ := List.mem_filter.1 hx
    obtain ⟨he, hab⟩ := (hin x).1 hx2
    rw [← hrow x hx1]
    exact List.mem_filter.2 ⟨List.mem_map.2 ⟨x.1, (mem_pyRange_one a b x.1).2 hab, rfl⟩,
      by rw [hrow x hx1]; exact (Bool.not_eq_true' _).mpr he⟩

end dispatch

section lazy
variable {π : Type}

/-- **what a projection has to deliver**: `r` is an element of `projectSpec` iff it is one of the
    fiber's stored non-empty elements (`f[i] = (c, p)`, the same payload object) under the
    transformed coordinate `k*c + m`, the latter lying in the interval (and in the range the
    result is iterated with); and the list is strictly ascending, for increasing (`k > 0`) and
    decreasing (`k < 0`) transforms alike. -/
theorem projectSpec_meaning (emp : π → Bool) (k m : Int) (hk : k ≠ 0) (iv : Option (Int × Int)) (os oe : Option Int)
    (f : Fib Int π) (hs : Sorted f) :
    Sorted (projectSpec emp k m iv os oe f) ∧
    ∀ r, r ∈ projectSpec emp k m iv os oe f ↔
      ∃ c i p, f[i]? = some (c, p) ∧ emp p = false ∧ inIv iv (k * c + m) = true ∧
        geStart os (k * c + m) = true ∧ geEnd oe (k * c + m) = false ∧ r = (k * c + m, (some i, p)) := by
  refine ⟨?_, fun r => ?_⟩
  · rw [projectSpec_eq_nf]
    rcases Int.lt_trichotomy k 0 with h | h | h
    · rw [if_pos h, ← nf_reverse]
      exact (transF_sorted_neg h m (occ_sorted emp hs)).filter _
    · exact absurd h hk
    · rw [if_neg (Int.lt_asymm h)]
      exact (transF_sorted_pos h m (occ_sorted emp hs)).filter _
  · unfold projectSpec
    simp only
    rw [show ∀ l : List (Int × Option Nat × π), (r ∈ if k < 0 then l.reverse else l) ↔ r ∈ l from
      fun l => by split <;> simp]
    show r ∈ (transF k m (occ emp f)).filter _ ↔ _
    simp only [List.mem_filter, transF, List.mem_map, mem_occ]
    constructor
    · rintro ⟨⟨_, ⟨c, i, p, hi, he, rfl⟩, rfl⟩, h2⟩
      simp only [Bool.and_eq_true, Bool.not_eq_true'] at h2
      exact ⟨c, i, p, hi, he, h2.1.1, h2.1.2, h2.2, rfl⟩
    · rintro ⟨c, i, p, hi, he, h1, h2, h3, rfl⟩
      exact ⟨⟨_, ⟨c, i, p, hi, he, rfl⟩, rfl⟩, by simp [h1, h2, h3]⟩

/-- **`project`** (affine `c ↦ k*c + m`, `k > 0` or `k < 0`, optional interval, optional shortcut;
    the lazy result iterated by `__iter__` or `iterRange(os, oe)`) delivers `projectSpec`, for
    every sorted fiber (any occupancy, explicit defaults, any default value).  A shortcut is
    claimed for increasing transforms (the reversed path asserts on any `start_pos`) and must be
    valid (`projValidStart`: with an interval, the element before it projects below the interval;
    without one, only empty elements are skipped) — a valid shortcut passes the code's own
    assertion and never changes what is yielded.  An uncompressed rank holds no content outside
    its active range. -/
theorem project_startpos_spec (emp : π → Bool) (mk : π) (hmk : emp mk = true) (cfg : Cfg) (k m : Int) (hk : k ≠ 0)
    (iv : Option (Int × Int)) (sp : Option Nat) (os oe : Option Int) (f : Fib Int π) (hs : Sorted f)
    (hU : cfg.fmt = .C ∨ withinActive emp cfg f = true)
    (hsp : ∀ i, sp = some i → 0 < k ∧ projValidStart emp k m iv i f = true) :
    project emp mk cfg k m iv sp os oe f = .ok (projectSpec emp k m iv os oe f) := by
  -- both sides in normal form: transform, then one filter
  rw [projectSpec_eq_nf]
  rcases Int.lt_trichotomy k 0 with hneg | h0 | hpos
  · -- reversed path: `occ` backwards, which the decreasing transform puts in ascending order again
    obtain rfl : sp = none := by
      cases sp with
      | none => rfl
      | some i => exact absurd hneg (Int.lt_asymm (hsp i rfl).1)
    rw [project_of_neg emp mk cfg hneg, revInner_eq,
      pipeline_eq_nf emp k m iv os oe (transF_sorted_neg hneg m (occ_sorted emp hs)), List.filter_reverse,
      occ, stored_filter_nonempty, nf_reverse, if_pos hneg]
  · exact absurd h0 hk
  · -- forward path: default iteration, which reaches the result exactly as `occ` does
    have hok : projStartOk k m iv sp f = true := by
      cases sp with
      | none => rfl
      | some i => exact projStartOk_of_valid (hsp i rfl).2
    rw [project_of_pos emp mk cfg hpos m iv sp os oe hok,
      pipeline_eq_nf emp k m iv os oe (transF_sorted_pos hpos m (iterDefault_sorted emp mk cfg sp hs)),
      if_neg (Int.lt_asymm hpos)]
    cases hf : cfg.fmt with
    | C => rw [nf_iterDefault_C emp mk hf hpos m iv sp os oe hs fun i h => (hsp i h).2]
    | U =>
      -- the dense traversal's non-empty part is the occupancy traversal of the active range, i.e. `occ`
      have hin : withinActive emp cfg f = true := hU.resolve_left fun h => by rw [hf] at h; cases h
      rw [iterDefault_U emp mk hf hs, iterDefaultSpec_U emp mk hf, shape_nonempty_is_range emp mk hmk f hs,
        rangeSpec_of_withinActive hin]
      rfl

/-- without a shortcut: **`project` = `projectSpec`** for every sorted fiber, every increasing or
    decreasing affine transform, every interval and every range the result is iterated with. -/
theorem project_spec (emp : π → Bool) (mk : π) (hmk : emp mk = true) (cfg : Cfg) (k m : Int) (hk : k ≠ 0)
    (iv : Option (Int × Int)) (os oe : Option Int) (f : Fib Int π) (hs : Sorted f)
    (hU : cfg.fmt = .C ∨ withinActive emp cfg f = true) :
    project emp mk cfg k m iv none os oe f = .ok (projectSpec emp k m iv os oe f) :=
  project_startpos_spec emp mk hmk cfg k m hk iv none os oe f hs hU (fun i h => by cases h)

/-- **lazy fibers as operands**: projecting (increasing transform) or pruning a lazy fiber that
    presents the ascending list `src` — e.g. the result of an earlier `project` / `prune` —
    delivers the non-empty elements of `src` under the transformed coordinates inside the
    interval, resp. those the predicate accepts (rank = index among the non-empty ones). -/
theorem project_of_lazy_spec {ρ : Type} (emp : ρ → Bool) (k : Int) (hk : 0 < k) (m : Int) (iv : Option (Int × Int))
    (src : Fib Int ρ) (hs : Sorted src) :
    projectOfLazy emp k m iv none src =
      .ok ((transF k m (src.filter (fun x => !emp x.2))).filter (fun x => inIv iv x.1)) := by
  unfold projectOfLazy
  have h2 : decide (k * 0 + m > k * 1 + m) = false := decide_eq_false (not_reversing_of_pos hk m)
  simp only [h2, Option.isSome_none, Bool.or_self, Bool.false_eq_true, if_false]
  rw [rangeLoop_none, ivLoop_eq iv (transF_sorted_pos hk m (hs.filter _))]

theorem prune_of_lazy_spec {ρ : Type} (emp : ρ → Bool) (pred : Nat → Int → ρ → Bool) (src : Fib Int ρ) :
    pruneOfLazy emp pred none src =
      .ok ((((src.filter (fun x => !emp x.2)).zipIdx).filter (fun x => pred x.2 x.1.1 x.1.2)).map (·.1)) := by
  unfold pruneOfLazy
  simp only [Option.isSome_none, Bool.false_eq_true, if_false]
  rw [rangeLoop_none]

/-- **`prune`**: the lazy result delivers the non-empty elements of the default traversal that
    `trans_fn(i, c, p)` accepts (`i` = rank in that traversal), clipped to the range the result
    is iterated with; a legal valid shortcut changes nothing. (A `None` answer is treated like
    `False` — the traversal does not stop, contrary to the docstring.) -/
theorem prune_spec (emp : π → Bool) (mk : π) (cfg : Cfg) (pred : Nat → Int → π → Bool) (sp : Option Nat)
    (os oe : Option Int) (f : Fib Int π) (hs : Sorted f) (hl : startLegal sp f = true)
    (hv : ∀ i, sp = some i → cfg.fmt = .U ∨ validStart emp none none i f = true) :
    prune emp mk cfg pred sp os oe f = .ok (pruneSpec emp mk cfg pred os oe f) := by
  have hD := (iter_dispatch emp mk cfg sp f hs hv).1
  have hsorted : Sorted (iterDefaultSpec emp mk cfg f) := hD ▸ iterDefault_sorted emp mk cfg sp hs
  unfold prune pruneRaw
  rw [hl, hD]
  simp only [Bool.not_true, Bool.false_eq_true, if_false]
  show Except.ok (lazyIter _ os oe _) = _
  -- the predicate's picks are still ascending, so the final range loop is a filter
  rw [lazyIter_eq _ os oe (List.Pairwise.sublist (zipIdx_filter_sublist _ _) hsorted), List.filter_map,
    List.filter_filter]
  unfold pruneSpec
  refine congrArg (fun l => Except.ok (List.map Prod.fst l)) (List.filter_congr fun x _ => ?_)
  -- the same four tests on both sides, conjoined in a different order
  simp only [Function.comp, inSlice]
  cases emp x.1.2.2 <;> cases pred x.2 x.1.1 x.1.2.2 <;> simp

/-- pruning keeps order and takes nothing but what the default traversal presents -/
theorem pruneSpec_sublist (emp : π → Bool) (mk : π) (cfg : Cfg) (pred : Nat → Int → π → Bool) (os oe : Option Int)
    (f : Fib Int π) : (pruneSpec emp mk cfg pred os oe f).Sublist (iterDefaultSpec emp mk cfg f) :=
  zipIdx_filter_sublist _ _

end lazy

/-- **lazily produced fibers materialise to equal eager fibers**: `Fiber.fromLazy` of a lazy
    fiber presenting the ascending list `ys` is the recursive non-empty copy of the eager fiber
    `ys`, hence `==` to it (C12's equality). -/
theorem fromLazy_eq {ν : Type} [DecidableEq ν] (dflt : ν) (d : Nat) (ys : Tree Int ν (d + 1)) (hw : WF (d + 1) ys) :
    fromLazy dflt d (show List (Int × Tree Int ν d) from ys) = nonEmpty dflt (d + 1) ys ∧
    fiberEq dflt dflt (d + 1) (fromLazy dflt d (show List (Int × Tree Int ν d) from ys)) ys = true := by
  have h := fromLazy_eq_nonEmpty dflt d (show List (Int × Tree Int ν d) from ys) hw.sorted
  refine ⟨h, ?_⟩
  rw [h]
  exact nonEmpty_eq dflt d ys hw

example : Sorted ([(0, (0 : Int)), (2, 5), (3, 0), (6, 7)] : Fib Int Int) := (sortedB_iff _).1 (by decide)
example : validStart (fun v : Int => v == 0) (some 3) (some 7) 2 [(0, 0), (2, 5), (3, 0), (6, 7)] = true := by decide
example : strip (iterRange (fun v : Int => v == 0) (some (1 : Int)) (some 6) none [(0, 4), (2, 5), (3, 0), (6, 7)])
    = [(2, 5)] := by decide
#guard (shapeRefLoop (0 : Int) [(1, 5)] (pyRange 0 3 1)) == ([(0, 0), (1, 5), (2, 0)], [(0, 0), (1, 5), (2, 0)])
#guard pyRange (-1) 6 3 == [-1, 2, 5]
#guard pyRangeI 5 (-1) (-2) == [5, 3, 1] && pyRangeI 0 3 (-1) == []
#guard rankExtent [[(1, (5 : Int))], [], [(0, 6), (4, 7)]] == some 5 && rankExtent [([] : Fib Int Int)] == none

/-! ### the classes repaired in /repo now meet `projectSpec`; non-vacuity of the hypotheses -/

private def c07_emp (dflt : Int) : Int → Bool := fun v => v == dflt

-- `Fiber([0,2],[5,1]).project(lambda c: c-2, interval=(-1,1), start_pos=1)`: a valid shortcut
-- (the skipped element projects to -2 < -1), formerly rejected by a source-space assertion
example : projValidStart (c07_emp 0) 1 (-2) (some (-1, 1)) 1 [(0, (5 : Int)), (2, 1)] = true := by decide
example : project (c07_emp 0) 0 {} 1 (-2) (some (-1, 1)) (some 1) none none [(0, 5), (2, 1)]
    = .ok [(0, (some 1, 1))] := by rfl
-- the dual, an invalid shortcut the old assertion let through, is rejected:
-- `Fiber([1,3],[5,6]).project(lambda c: c+10, interval=(11,14), start_pos=1)`
example : project (c07_emp 0) 0 {} 1 10 (some (11, 14)) (some 1) none none [(1, 5), (3, 6)]
    = .error .assertion := by rfl
-- reversed transform with a non-zero default, and a fiber storing only an explicit default
example : project (c07_emp 7) 7 {} (-1) (-2) none none none none [(2, 0)] = .ok [(-4, (some 0, 0))] := by rfl
example : project (c07_emp 0) 0 {} 1 (-2) none none none none [(2, 0)] = .ok [] := by rfl
-- the hypotheses of `project_startpos_spec` are satisfiable by non-trivial values (decreasing
-- transform with interval; increasing transform with a positive valid shortcut)
example : project (c07_emp 0) 0 {} (-2) 10 (some (1, 9)) none none none [(0, 0), (1, 5), (3, 6), (5, 7)]
    = .ok [(4, (some 2, 6)), (8, (some 1, 5))] := by rfl
example : projValidStart (c07_emp 0) 1 10 (some (12, 20)) 2 [(0, (0 : Int)), (1, 5), (3, 6), (5, 7)] = true := by decide
example : project (c07_emp 0) 0 {} 1 10 (some (12, 20)) (some 2) none none [(0, 0), (1, 5), (3, 6), (5, 7)]
    = .ok [(13, (some 2, 6)), (15, (some 3, 7))] := by rfl

-- prune: a legal, valid shortcut over an explicit default; an uncompressed rank within its active range
example : startLegal (some 1) [(0, (0 : Int)), (2, 5), (4, 6)] = true ∧
    validStart (c07_emp 0) none none 1 [(0, (0 : Int)), (2, 5), (4, 6)] = true := by decide
example : withinActive (c07_emp 0) { fmt := .U, shape := some 4 } [(0, (0 : Int)), (1, 5), (3, 6)] = true := by decide
#guard (match prune (c07_emp 0) 0 { fmt := .U, shape := some 4 } (fun i _ _ => i % 2 == 1) none none none
          [(0, 0), (1, 5), (3, 6)] with | .ok l => l == [(1, (some 1, 5)), (3, (some 2, 6))] | _ => false)
#guard (match project (c07_emp 0) 0 { fmt := .U, shape := some 4 } 2 1 (some (2, 8)) none none none
          [(0, 0), (1, 5), (3, 6)] with | .ok l => l == [(3, (some 1, 5)), (7, (some 2, 6))] | _ => false)
-- fromLazy: a well-formed depth-2 list of yields with an empty sub-fiber and an explicit default
private def c07_ys : Tree Int Int 2 := [(1, [(0, (0 : Int)), (2, (5 : Int))]), (4, [])]
private def c07_mat : Tree Int Int 2 := [(1, [(2, (5 : Int))])]
example : WF 2 c07_ys := (wfB_iff 2 c07_ys).1 (by decide)
#guard fiberEq 0 0 2 (fromLazy (0 : Int) 1 c07_ys) c07_mat && fiberEq 0 0 2 (fromLazy (0 : Int) 1 c07_ys) c07_ys
#guard canonicalB 0 2 (fromLazy (0 : Int) 1 c07_ys)

end Ft
