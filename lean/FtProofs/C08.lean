/-
  C08 — splitting partitions a fiber losslessly at exactly the specified boundaries.
  Property theorems only; helper lemmas live in FtProofs/Lemmas/Split*.lean.

  Reading guide.  `splitUniformIter`, `splitNonUniformIter`, `splitEqualIter`, `splitUnEqualIter`
  (FtModel/Split.lean) mirror the Python loops; `uSpec` / `nuSpec` / `chunkParts` are the
  declarative results.  `elems` are the presented (non-empty) elements of the fiber in storage
  order, `[as, ae)` its active range.  `none` = the implementation raises.
-/
import FtProofs.Lemmas.SplitChunks
set_option linter.unusedSectionVars false
set_option linter.unusedVariables false
namespace Ft

section
variable {π : Type}

/-- **Uniform split.**  For every positive step, non-negative halos, non-empty active range and
    ascending fiber, the two nested loops with their lookup-or-append and `search_start` shortcut
    return: for each multiple `P` of `step` whose interval `[P, P+step)` meets the active range,
    in ascending order, the presented elements of `[P-pre, P+step+post)` inside the halo-extended
    active range, in order, payloads untouched; empty partitions are not created; each lower's
    active range is `[max P as, min (P+step) ae)`; `relativeCoords` subtracts `P`. -/
theorem uniform_spec (step pre post as ae : Int) (rel : Bool) (elems : Fib Int π)
    (hstep : 0 < step) (hact : as < ae) (hpre : 0 ≤ pre) (hpost : 0 ≤ post) (hsorted : Sorted elems) :
    splitUniformIter step pre post as ae rel elems = some (uSpec step pre post as ae rel elems) :=
  splitUniformIter_eq step pre post as ae hstep hact hpre hpost rel elems hsorted

example : splitUniformIter 2 1 1 0 6 false [((1 : Int), (10 : Int)), (2, 20), (5, 50)] =
    some [⟨0, [(1, 10), (2, 20)], 0, 2⟩, ⟨2, [(1, 10), (2, 20)], 2, 4⟩, ⟨4, [(5, 50)], 4, 6⟩] := by
  decide +kernel

/-- **Non-uniform split.**  For every ascending boundary list and ascending fiber (any halos, any
    active range) the scan with its `search_start` shortcut returns: partition `i` is `[S[i], S[i+1])`,
    the last one unbounded; it exists only if it meets the active range and holds the presented
    elements of its halo-extended interval inside the halo-extended active range; elements below the
    first boundary — and, since /repo fix 9ea13c4, elements reaching only partitions that start
    at/after the active end — belong to no partition. -/
theorem nonuniform_spec (S : List Int) (pre post as ae : Int) (rel : Bool) (elems : Fib Int π)
    (hS : S.Pairwise (· < ·)) (hsorted : Sorted elems) :
    splitNonUniformIter S pre post as ae rel elems = some (nuSpec S pre post as ae rel elems) := by
  obtain ⟨bk', h1, h2, h3⟩ := nuLoop_spec S pre post as ae hS elems [] (List.replicate S.length []) 0
    (by simpa using hsorted) (by simp)
    (fun j hj => by simp [hj])
    (fun y _ j hj => by omega)
  simp only [List.nil_append] at h3
  have h4 := eq_map_range_of_getElem? bk' S.length
    (fun j => elems.filter (fun e => nuMemb S pre post as ae j e.1)) h2 h3
  unfold splitNonUniformIter nuSpec
  rw [h1, h4, Option.map_some, zipIdx_map_range, List.filterMap_map]
  rfl

example : splitNonUniformIter [0, 3] 1 0 0 6 true [((1 : Int), (10 : Int)), (2, 20), (5, 50)] =
    some [⟨0, [(1, 10), (2, 20)], 0, 3⟩, ⟨3, [(-1, 20), (2, 50)], 0, 3⟩] := by
  decide +kernel

/-- the former crash `Fiber([3],[5]).splitNonUniform([4], pre_halo=1)` (active range `[0,4)`): no partition -/
example : splitNonUniformIter [4] 1 0 0 4 false [((3 : Int), (5 : Int))] = some [] := by decide +kernel

/-- **boundaries handed over as a fiber** (`splitNonUniform(splits=<Fiber>)`): the boundaries are all the
    stored coordinates of that fiber — elements with an explicit default or an empty sub-fiber as payload
    included; for a well-formed (ascending) boundary fiber the split is `nuSpec` at exactly these -/
theorem nonuniform_fiber_spec {ρ : Type} (bf : Fib Int ρ) (pre post as ae : Int) (rel : Bool)
    (elems : Fib Int π) (hb : Sorted bf) (hsorted : Sorted elems) :
    splitNonUniformIter (fiberCoords bf) pre post as ae rel elems =
      some (nuSpec (bf.map (·.1)) pre post as ae rel elems) :=
  nonuniform_spec _ pre post as ae rel elems (by unfold fiberCoords; rw [List.pairwise_map]; exact hb) hsorted

example : splitNonUniformIter (fiberCoords [((0 : Int), (0 : Int)), (3, 0)]) 0 0 0 6 false
    [((1 : Int), (10 : Int)), (2, 20), (5, 50)] =
    some [⟨0, [(1, 10), (2, 20)], 0, 3⟩, ⟨3, [(5, 50)], 3, 6⟩] := by decide +kernel

/-- **splitEqual**: never raises; it is the non-uniform split at the boundaries `active start,
    coordinate of every step-th active element` -/
theorem equal_spec (step pre post as ae : Int) (rel : Bool) (elems : Fib Int π)
    (hact : as < ae) (hsorted : Sorted elems) :
    splitEqualIter step pre post as ae rel elems =
      some (nuSpec (equalBounds step as (iterActive as ae elems)) pre post as ae rel elems) := by
  exact nonuniform_spec _ pre post as ae rel elems
    (bounds_pairwise as ae elems hsorted _ (equalBounds_sublist step as (iterActive as ae elems))) hsorted

example : splitEqualIter 2 0 0 0 8 false [((1 : Int), (10 : Int)), (2, 20), (5, 50)] =
    some [⟨0, [(1, 10), (2, 20)], 0, 5⟩, ⟨5, [(5, 50)], 5, 8⟩] := by decide +kernel

/-- **splitUnEqual**: never raises; non-uniform split at the boundaries selected by the sizes -/
theorem unequal_spec (sizes : List Int) (pre post as ae : Int) (rel : Bool) (elems : Fib Int π)
    (hact : as < ae) (hsorted : Sorted elems) :
    splitUnEqualIter sizes pre post as ae rel elems =
      some (nuSpec (unequalBounds sizes as (iterActive as ae elems)) pre post as ae rel elems) := by
  exact nonuniform_spec _ pre post as ae rel elems
    (bounds_pairwise as ae elems hsorted _ (unequalLoop_sublist sizes as _ 0 0)) hsorted

example : splitUnEqualIter [1] 0 0 0 8 false [((1 : Int), (10 : Int)), (2, 20), (5, 50)] =
    some [⟨0, [(1, 10)], 0, 2⟩, ⟨2, [(2, 20), (5, 50)], 2, 8⟩] := by decide +kernel

end

/-- **rank ids of a tensor-level split**: the rank addressed (by `rankid=`, which overrides `depth=`)
    is replaced in place by its two halves `id.1`, `id.0`; every other rank keeps its id and its place -/
theorem split_rank_ids (ids : List String) (k : Nat) (h : k < ids.length) :
    splitRankIds ids k = ids.take k ++ [ids[k] ++ ".1", ids[k] ++ ".0"] ++ ids.drop (k + 1) ∧
    (splitRankIds ids k).length = ids.length + 1 := by
  have e : splitRankIds ids k = ids.take k ++ [ids[k] ++ ".1", ids[k] ++ ".0"] ++ ids.drop (k + 1) := by
    unfold splitRankIds
    rw [List.getElem?_eq_getElem h]
  refine ⟨e, ?_⟩
  rw [e]
  simp only [List.length_append, List.length_take, List.length_drop, List.length_cons, List.length_nil]
  omega

example : splitRankIds ["C", "H", "W"] 1 = ["C", "H.1", "H.0", "W"] := by decide +kernel

section
variable {ν : Type} [DecidableEq ν]

/-- what a rank of format "U" presents is ascending (every coordinate of the active range once), so
    all the theorems of this file apply to it -/
theorem presentU_sorted (dflt : ν) (d : Nat) (as ae : Int) (f : Tree Int ν (d + 1)) :
    Sorted (presentU dflt d as ae f) := by
  unfold presentU Sorted
  rw [List.pairwise_map]
  exact List.pairwise_lt_range.imp (fun h => by simp only; omega)

theorem presentFmt_sorted (fmtU : Bool) (dflt : ν) (d : Nat) (as ae : Int) (f : Tree Int ν (d + 1))
    (hf : Sorted (show List (Int × Tree Int ν d) from f)) : Sorted (presentFmt fmtU dflt d as ae f) := by
  unfold presentFmt
  split
  · split
    · exact List.Pairwise.nil
    · exact presentU_sorted dflt d as ae f
  · exact hf.filter _

end

section
variable {π : Type}

/-- **every kind of split, boundaries from the occupancy, partitions from what the rank presents**
    (the two coincide for format "C"; for format "U" the rank presents every coordinate of its active
    range): the loops compute the declarative result -/
theorem split_spec_on (op : SplitOp) (pre post as ae : Int) (rel : Bool) (occ elems : Fib Int π)
    (hop : match op with
      | .uniform step => 0 < step ∧ 0 ≤ pre ∧ 0 ≤ post
      | .nonuniform S => S.Pairwise (· < ·)
      | _ => True)
    (hact : as < ae) (hocc : Sorted occ) (hsorted : Sorted elems) :
    splitIterOn op pre post as ae rel occ elems = some (specIterOn op pre post as ae rel occ elems) := by
  cases op with
  | uniform step => exact uniform_spec step pre post as ae rel elems hop.1 hact hop.2.1 hop.2.2 hsorted
  | nonuniform S => exact nonuniform_spec S pre post as ae rel elems hop hsorted
  | equal step =>
    exact nonuniform_spec _ pre post as ae rel elems
      (bounds_pairwise as ae occ hocc _ (equalBounds_sublist step as (iterActive as ae occ))) hsorted
  | unequal sizes =>
    exact nonuniform_spec _ pre post as ae rel elems
      (bounds_pairwise as ae occ hocc _ (unequalLoop_sublist sizes as _ 0 0)) hsorted


/-- upper coordinates strictly ascending (uniform) -/
theorem upper_ascending (step pre post as ae : Int) (rel : Bool) (elems : Fib Int π) (hstep : 0 < step) :
    ((uSpec step pre post as ae rel elems).map (·.start)).Pairwise (· < ·) := by
  rw [uSpec_eq_map, List.map_map]
  have : ((fun (p : Part π) => p.start) ∘
      fun (b : Int × Fib Int π) => mkPart rel b.1 (max b.1 as) (min (b.1 + step) ae) b.2) = (·.1) := rfl
  rw [this, List.pairwise_map]
  exact (uSpecB_repr step pre post as ae hstep elems).sorted

/-- upper coordinates strictly ascending (non-uniform / equal / unequal: any ascending boundary list) -/
theorem upper_ascending_nonuniform (S : List Int) (pre post as ae : Int) (rel : Bool) (elems : Fib Int π)
    (hS : S.Pairwise (· < ·)) :
    ((nuSpec S pre post as ae rel elems).map (·.start)).Pairwise (· < ·) := by
  unfold nuSpec
  rw [List.map_filterMap, List.pairwise_filterMap]
  apply List.Pairwise.imp_of_mem _ List.pairwise_lt_range
  intro i j hi hj hij a ha b hb
  rw [List.mem_range] at hi hj
  simp only [Option.map_eq_some_iff, ite_isEmpty_eq_some] at ha hb
  obtain ⟨_, ⟨_, rfl⟩, rfl⟩ := ha
  obtain ⟨_, ⟨_, rfl⟩, rfl⟩ := hb
  show S.getD i 0 < S.getD j 0
  rw [getD_eq_getElem S i hi, getD_eq_getElem S j hj]
  exact (List.pairwise_iff_getElem.1 hS) i j hi hj hij

/-- **halo membership, uniform**: an upper coordinate is a multiple of `step` whose interval meets the
    active range; its lower is non-empty and contains precisely the presented elements of the
    halo-extended active range that lie in `[P - pre, P + step + post)` -/
theorem halo_membership (step pre post as ae : Int) (elems : Fib Int π) (hstep : 0 < step)
    (p : Part π) (hp : p ∈ uSpec step pre post as ae false elems) :
    step ∣ p.start ∧ as < p.start + step ∧ p.start < ae ∧ p.elems ≠ [] ∧
    p.elems.Sublist elems ∧
    ∀ e, e ∈ p.elems ↔ e ∈ elems ∧ as - pre ≤ e.1 ∧ e.1 < ae + post ∧
      p.start - pre ≤ e.1 ∧ e.1 < p.start + step + post := by
  obtain ⟨P, hP, hne, rfl⟩ := (mem_uSpec step pre post as ae false elems p).1 hp
  obtain ⟨h1, h2, h3⟩ := (mem_uCands step as ae hstep P).1 hP
  refine ⟨h1, h2, h3, hne, List.filter_sublist, ?_⟩
  intro e
  show e ∈ elems.filter _ ↔ _
  rw [List.mem_filter, uMemb_iff]
  exact Iff.rfl

/-- … and every such (partition, element) pair is present: an element appears in *precisely* the
    partitions whose halo-extended interval contains it -/
theorem halo_cover (step pre post as ae : Int) (elems : Fib Int π) (hstep : 0 < step)
    (P : Int) (hd : step ∣ P) (h1 : as < P + step) (h2 : P < ae)
    (e : Int × π) (he : e ∈ elems) (hw1 : as - pre ≤ e.1) (hw2 : e.1 < ae + post)
    (hi1 : P - pre ≤ e.1) (hi2 : e.1 < P + step + post) :
    ∃ p ∈ uSpec step pre post as ae false elems, p.start = P ∧ e ∈ p.elems := by
  have hmem : e ∈ elems.filter (fun e => uMemb step pre post as ae P e.1) := by
    rw [List.mem_filter, uMemb_iff]
    exact ⟨he, hw1, hw2, hi1, hi2⟩
  refine ⟨_, (mem_uSpec step pre post as ae false elems _).2
    ⟨P, (mem_uCands step as ae hstep P).2 ⟨hd, h1, h2⟩, List.ne_nil_of_mem hmem, rfl⟩, rfl, hmem⟩

example : (⟨2, [((1 : Int), (10 : Int)), (2, 20)], 2, 4⟩ : Part Int) ∈
    uSpec 2 1 1 0 6 false [((1 : Int), (10 : Int)), (2, 20), (5, 50)] := by decide +kernel

/-- **halo membership, non-uniform**: partition `i` (it exists only if `[S[i], S[i+1])` meets the
    active range) holds precisely the presented elements of the halo-extended active range inside
    `[S[i] - pre, S[i+1] + post)` (no upper bound for the last boundary) -/
theorem halo_membership_nonuniform (S : List Int) (pre post as ae : Int) (elems : Fib Int π)
    (p : Part π) (hp : p ∈ nuSpec S pre post as ae false elems) :
    ∃ i, ∃ h : i < S.length, p.start = S[i] ∧ S[i] < ae ∧ (∀ t, S[i + 1]? = some t → as < t) ∧
      p.elems ≠ [] ∧ p.elems.Sublist elems ∧
      ∀ e, e ∈ p.elems ↔ e ∈ elems ∧ as - pre ≤ e.1 ∧ e.1 < ae + post ∧
        S[i] - pre ≤ e.1 ∧ ∀ t, S[i + 1]? = some t → e.1 < t + post := by
  obtain ⟨i, hi, hne, x4, x3, rfl⟩ := nuSpec_part S pre post as ae false elems p hp
  have hsi : S[i]? = some S[i] := List.getElem?_eq_getElem hi
  refine ⟨i, hi, rfl, x4, x3, hne, List.filter_sublist, fun e => ?_⟩
  show e ∈ elems.filter _ ↔ _
  rw [List.mem_filter, nuMemb_iff]
  constructor
  · rintro ⟨a, s, hs, b, c, d, _, f⟩
    rw [hsi] at hs; cases hs
    exact ⟨a, b, c, f, fun t ht => (d t ht).2⟩
  · rintro ⟨a, b, c, d, f⟩
    exact ⟨a, S[i], hsi, b, c, fun t ht => ⟨x3 t ht, f t ht⟩, x4, d⟩

/-- **lossless, uniform** (halo 0): the lowers concatenated in upper order are exactly the presented
    elements of the active range, each once, in order, payloads untouched -/
theorem lossless (step as ae : Int) (elems : Fib Int π) (hstep : 0 < step) (hsorted : Sorted elems) :
    (uSpec step 0 0 as ae false elems).flatMap (·.elems) =
      elems.filter (fun e => decide (as ≤ e.1) && decide (e.1 < ae)) :=
  uSpec_lossless step as ae hstep elems hsorted

/-- **lossless, non-uniform** (halo 0): … the presented active elements at/after the first boundary -/
theorem lossless_nonuniform (S : List Int) (as ae : Int) (elems : Fib Int π) (hS : S.Pairwise (· < ·))
    (hsorted : Sorted elems) :
    (nuSpec S 0 0 as ae false elems).flatMap (·.elems) =
      elems.filter (fun e => decide (as ≤ e.1) && decide (e.1 < ae) &&
        (match S[0]? with | some s0 => decide (s0 ≤ e.1) | none => false)) := by
  unfold nuSpec
  rw [flatMap_filterMap_nonempty (List.range S.length)
    (fun i => elems.filter (fun e => nuMemb S 0 0 as ae i e.1))
    (fun i b => mkPart false (S.getD i 0) (max (S.getD i 0) as) (nuHi S ae i) b) (·.elems) (fun a => rfl),
    flatMap_filter_ordered elems hsorted (fun i c => nuMemb S 0 0 as ae i c) _
      (List.pairwise_lt_range.imp (by
        -- everything in partition `i` lies below `S[i+1] ≤ S[j]`, everything in partition `j` at or above
        intro i j hij a b ha hb
        obtain ⟨_, _, _, _, a3, _, _⟩ := (nuMemb_iff S 0 0 as ae i a).1 ha
        obtain ⟨sj, hsj, _, _, _, _, b5⟩ := (nuMemb_iff S 0 0 as ae j b).1 hb
        obtain ⟨t, ht⟩ := getElem?_of_le S (Nat.succ_le_of_lt hij) hsj
        have := (a3 t ht).2
        have := sorted_getElem?_le S hS (Nat.succ_le_of_lt hij) ht hsj
        omega))]
  apply List.filter_congr
  intro x _
  rw [Bool.eq_iff_iff, List.any_eq_true]
  constructor
  · rintro ⟨i, _, hm⟩
    obtain ⟨s, hs, w1, w2, _, _, w5⟩ := (nuMemb_iff S 0 0 as ae i x.1).1 hm
    obtain ⟨s0, hs0⟩ := getElem?_of_le S (Nat.zero_le i) hs
    have := sorted_getElem?_le S hS (Nat.zero_le i) hs0 hs
    rw [hs0]
    simp only [Bool.and_eq_true, decide_eq_true_eq]
    omega
  · intro h
    cases hs0 : S[0]? with
    | none => rw [hs0, Bool.and_false] at h; cases h
    | some s0 =>
      rw [hs0] at h
      simp only [Bool.and_eq_true, decide_eq_true_eq] at h
      obtain ⟨i, s, hs, hc, hnext⟩ := last_boundary S 0 x.1 ⟨0, s0, hs0, by omega⟩
      refine ⟨i, List.mem_range.2 (List.getElem?_eq_some_iff.1 hs).1, (nuMemb_iff S 0 0 as ae i x.1).2
        ⟨s, hs, by omega, by omega, fun t ht => ?_, by omega, hc⟩⟩
      have := hnext t ht
      constructor <;> omega

/-- equal / unequal splits (halo 0) lose nothing: their first boundary is the active start -/
theorem lossless_position (B : List Int) (as ae : Int) (elems : Fib Int π) (hB : B.Pairwise (· < ·))
    (hsorted : Sorted elems) (h0 : B[0]? = some as) :
    (nuSpec B 0 0 as ae false elems).flatMap (·.elems) =
      elems.filter (fun e => decide (as ≤ e.1) && decide (e.1 < ae)) := by
  rw [lossless_nonuniform B as ae elems hB hsorted, h0]
  apply List.filter_congr
  intro x _
  by_cases h : as ≤ x.1 <;> simp [h]

/-- **active ranges, uniform** (absolute coordinates; with `relativeCoords` the same range shifted by
    the partition start, see `relative_spec`): each lower's active range is its interval clipped to the
    parent's, it is non-empty and inside the parent's -/
theorem active_clip (step pre post as ae : Int) (elems : Fib Int π) (hstep : 0 < step)
    (hact : as < ae) (p : Part π) (hp : p ∈ uSpec step pre post as ae false elems) :
    p.lo = max p.start as ∧ p.hi = min (p.start + step) ae ∧ as ≤ p.lo ∧ p.lo < p.hi ∧ p.hi ≤ ae := by
  obtain ⟨P, hP, _, rfl⟩ := (mem_uSpec step pre post as ae false elems p).1 hp
  obtain ⟨_, h2, h3⟩ := (mem_uCands step as ae hstep P).1 hP
  exact ⟨rfl, rfl, Int.le_max_right P as,
    Int.max_lt.2 ⟨Int.lt_min.2 ⟨Int.lt_add_of_pos_right P hstep, h3⟩, Int.lt_min.2 ⟨h2, hact⟩⟩,
    Int.min_le_right ..⟩

/-- … and (halo 0) it contains all the lower's elements -/
theorem active_contains (step as ae : Int) (elems : Fib Int π) (hstep : 0 < step)
    (p : Part π) (hp : p ∈ uSpec step 0 0 as ae false elems) :
    ∀ e ∈ p.elems, p.lo ≤ e.1 ∧ e.1 < p.hi := by
  obtain ⟨P, hP, _, rfl⟩ := (mem_uSpec step 0 0 as ae false elems p).1 hp
  intro e he
  have := (List.mem_filter.1 (show e ∈ elems.filter (fun e => uMemb step 0 0 as ae P e.1) from he)).2
  rw [uMemb_iff, Int.sub_zero, Int.add_zero, Int.sub_zero, Int.add_zero] at this
  exact ⟨Int.max_le.2 ⟨this.2.2.1, this.1⟩, Int.lt_min.2 ⟨this.2.2.2, this.2.1⟩⟩

/-- **active ranges, non-uniform** (absolute coordinates; relative: `relative_spec_nonuniform`) -/
theorem active_clip_nonuniform (S : List Int) (pre post as ae : Int) (elems : Fib Int π)
    (hS : S.Pairwise (· < ·)) (hact : as < ae) (p : Part π) (hp : p ∈ nuSpec S pre post as ae false elems) :
    ∃ i, ∃ h : i < S.length, p.start = S[i] ∧ p.lo = max S[i] as ∧
      p.hi = (match S[i + 1]? with | some t => min t ae | none => ae) ∧
      as ≤ p.lo ∧ p.lo < p.hi ∧ p.hi ≤ ae := by
  obtain ⟨i, hi, _, x4, x3, rfl⟩ := nuSpec_part S pre post as ae false elems p hp
  refine ⟨i, hi, rfl, rfl, rfl, ?_⟩
  show as ≤ max S[i] as ∧ max S[i] as < nuHi S ae i ∧ nuHi S ae i ≤ ae
  unfold nuHi
  cases hn : S[i + 1]? with
  | none => exact ⟨Int.le_max_right .., Int.max_lt.2 ⟨x4, hact⟩, Int.le_refl _⟩
  | some t =>
    have h2 : S[i] < t := sorted_getElem?_lt S hS (Nat.lt_succ_self i) (List.getElem?_eq_getElem hi) hn
    exact ⟨Int.le_max_right .., Int.max_lt.2 ⟨Int.lt_min.2 ⟨h2, x4⟩, Int.lt_min.2 ⟨x3 t hn, hact⟩⟩,
      Int.min_le_right ..⟩

/-- **relative coordinates** are the offsets from the partition start, everything else unchanged -/
theorem relative_spec (step pre post as ae : Int) (elems : Fib Int π) :
    uSpec step pre post as ae true elems =
      (uSpec step pre post as ae false elems).map
        (fun p => { p with elems := p.elems.map (fun e => (e.1 - p.start, e.2)),
                           lo := p.lo - p.start, hi := p.hi - p.start }) := by
  rw [uSpec_eq_map, uSpec_eq_map, List.map_map]
  rfl

theorem relative_spec_nonuniform (S : List Int) (pre post as ae : Int) (elems : Fib Int π) :
    nuSpec S pre post as ae true elems =
      (nuSpec S pre post as ae false elems).map
        (fun p => { p with elems := p.elems.map (fun e => (e.1 - p.start, e.2)),
                           lo := p.lo - p.start, hi := p.hi - p.start }) := by
  unfold nuSpec
  rw [List.map_filterMap]
  apply filterMap_congr'
  intro i _
  by_cases h : (elems.filter (fun e => nuMemb S pre post as ae i e.1)).isEmpty = true <;> simp [h, mkPart]

example : uSpec 2 0 0 0 6 true [((1 : Int), (10 : Int)), (3, 30)] =
    [⟨0, [(1, 10)], 0, 2⟩, ⟨2, [(1, 30)], 0, 2⟩] := by decide +kernel

/-- **partitions of partitions tile the original** (absolute coordinates, halo 0): re-splitting every
    lower uniformly, with the lower's own active range, loses and duplicates nothing -/
theorem resplit_tiles (step step2 as ae : Int) (elems : Fib Int π) (hstep : 0 < step) (hstep2 : 0 < step2)
    (hsorted : Sorted elems) :
    (uSpec step 0 0 as ae false elems).flatMap
        (fun p => (uSpec step2 0 0 p.lo p.hi false p.elems).flatMap (·.elems)) =
      elems.filter (fun e => decide (as ≤ e.1) && decide (e.1 < ae)) := by
  rw [← uSpec_lossless step as ae hstep elems hsorted]
  apply flatMap_congr_mem
  intro p hp
  have hsub : p.elems.Sublist elems := (halo_membership step 0 0 as ae elems hstep p hp).2.2.2.2.1
  have hps : Sorted p.elems := List.Pairwise.sublist hsub hsorted
  rw [uSpec_lossless step2 p.lo p.hi hstep2 p.elems hps, List.filter_eq_self]
  intro e he
  have := active_contains step as ae elems hstep p hp e he
  simp only [Bool.and_eq_true, decide_eq_true_eq]
  exact this

example : (uSpec 4 0 0 0 8 false [((1 : Int), (10 : Int)), (3, 30), (6, 60)]).flatMap
    (fun p => (uSpec 2 0 0 p.lo p.hi false p.elems).map (fun q => (q.start, q.lo, q.hi))) =
    [(0, 0, 2), (2, 2, 4), (6, 6, 8)] := by decide +kernel

/-- … and so do partitions made with `relativeCoords` (since /repo fix 0894f84 their active range is
    relative too): re-splitting every relative lower with its own range and shifting back by the
    partition start gives the presented active elements again -/
theorem resplit_tiles_relative (step step2 as ae : Int) (elems : Fib Int π) (hstep : 0 < step)
    (hstep2 : 0 < step2) (hsorted : Sorted elems) :
    (uSpec step 0 0 as ae true elems).flatMap
        (fun p => ((uSpec step2 0 0 p.lo p.hi false p.elems).flatMap (·.elems)).map
          (fun e => (e.1 + p.start, e.2))) =
      elems.filter (fun e => decide (as ≤ e.1) && decide (e.1 < ae)) := by
  rw [relative_spec, List.flatMap_map, ← uSpec_lossless step as ae hstep elems hsorted]
  apply flatMap_congr_mem
  intro p hp
  have hsub : p.elems.Sublist elems := (halo_membership step 0 0 as ae elems hstep p hp).2.2.2.2.1
  have hps : Sorted p.elems := List.Pairwise.sublist hsub hsorted
  have hps' : Sorted (p.elems.map (fun e => (e.1 - p.start, e.2))) := by
    unfold Sorted at hps ⊢
    rw [List.pairwise_map]
    exact hps.imp (fun h => by simp only; omega)
  simp only
  rw [uSpec_lossless step2 _ _ hstep2 _ hps', List.filter_eq_self.2, List.map_map]
  · have : ((fun e : Int × π => (e.1 + p.start, e.2)) ∘ fun e => (e.1 - p.start, e.2)) = id := by
      funext e; simp only [Function.comp, id]; exact Prod.ext (by simp) rfl
    rw [this, List.map_id]
  · intro e he
    obtain ⟨x, hx, rfl⟩ := List.mem_map.1 he
    have := active_contains step as ae elems hstep p hp x hx
    simp only [Bool.and_eq_true, decide_eq_true_eq]
    omega

/-- `/`: at most `n` partitions -/
theorem truediv_parts (shape n : Int) (rel : Bool) (elems : Fib Int π) (hshape : 0 < shape) (hn : 0 < n) :
    (uSpec (truedivStep shape n) 0 0 0 shape rel elems).length ≤ n.toNat := by
  unfold uSpec
  refine Nat.le_trans (List.length_filterMap_le _ _) ?_
  unfold uCands truedivStep
  simp only [List.length_map, List.length_range]
  have h1 := Int.lt_ediv_add_one_mul_self (shape + n - 1) hn
  rw [add_one_mul_int] at h1
  have hst : 0 < (shape + n - 1) / n := by
    have : (1 : Int) ≤ (shape + n - 1) / n := (Int.le_ediv_iff_mul_le hn).2 (by omega)
    omega
  have h2 : (shape - 1) / ((shape + n - 1) / n) < n := by
    apply (Int.ediv_lt_iff_lt_mul hst).2
    rw [Int.mul_comm]; omega
  have h3 : (0 : Int) / ((shape + n - 1) / n) = 0 := Int.zero_ediv _
  rw [h3]
  show ((shape - 1) / ((shape + n - 1) / n) + 1 - 0).toNat ≤ n.toNat
  omega

end

section
variable {ν : Type} [DecidableEq ν]

/-- **depth**: `split…(depth = k)` replaces every fiber reached by a coordinate path of length `k`
    by its split and leaves the levels above untouched — whatever sits above (explicit defaults,
    empty sub-fibers included) -/
theorem depth_spec (cfg : SplitCfg) (dflt : ν) (d : Nat) :
    ∀ (k : Nat) (t : Tree Int ν (d + 1 + k)) (r : Tree Int ν (d + 2 + k)),
      splitAt cfg dflt d k t = some r →
      ∀ path, subAt (d + 2) k r path = (subAt (d + 1) k t path).bind (splitFiber cfg dflt d) := by
  intro k
  induction k with
  | zero =>
    intro t r h path
    cases path with
    | nil => simp only [subAt, Option.bind_some]; exact h.symm
    | cons c cs => simp [subAt]
  | succ k ih =>
    intro t r h path
    cases path with
    | nil => simp [subAt]
    | cons c cs =>
      have hm := splitAt_succ_some h
      simp only [subAt]
      rw [lookup_mapM? (splitAt cfg dflt d k) c _ _ hm]
      cases hlk : lookup (show List (Int × Tree Int ν (d + 1 + k)) from t) c with
      | none => rfl
      | some s =>
        simp only [Option.bind_some]
        cases hs : splitAt cfg dflt d k s with
        | none =>
          exfalso
          exact mapM?_some_of_mem (splitAt cfg dflt d k) _ _ hm (c, s) (mem_of_lookup_eq_some hlk) hs
        | some r' =>
          simp only [Option.bind_some]
          exact ih s r' hs cs

/-- the levels above the split depth keep their coordinates, position by position -/
theorem depth_coords (cfg : SplitCfg) (dflt : ν) (d k : Nat) (t : Tree Int ν (d + 1 + (k + 1)))
    (r : Tree Int ν (d + 2 + (k + 1))) (h : splitAt cfg dflt d (k + 1) t = some r) :
    (show List (Int × Tree Int ν (d + 2 + k)) from r).map (·.1) =
      (show List (Int × Tree Int ν (d + 1 + k)) from t).map (·.1) :=
  keys_mapM? (splitAt cfg dflt d k) _ _ (splitAt_succ_some h)

end

section
variable {π : Type}

/-- **splitUnEqual in position space** (halo 0), every list of positive sizes — the empty list
    included (one partition with everything, since /repo COMMIT:C08-01): chunks of the stated sizes,
    whatever remains in one last chunk. -/
theorem unequal_chunks (sizes : List Int) (as ae : Int) (rel : Bool) (elems : Fib Int π)
    (hpos : ∀ s ∈ sizes, 1 ≤ s) (hact : as < ae) (hsorted : Sorted elems) :
    splitUnEqualIter sizes 0 0 as ae rel elems =
      some (chunkParts as ae rel (takeChunks (sizes.map Int.toNat)
        (elems.filter (fun e => decide (as ≤ e.1) && decide (e.1 < ae))))) := by
  rw [unequal_spec sizes 0 0 as ae rel elems hact hsorted,
    iterActive_eq_filter as ae elems hsorted, unequalBounds_chunks sizes hpos as]
  rw [nuSpec_chunks as ae rel elems hsorted _ as
    (takeChunks_nonempty _ _ (by
      intro s hs
      obtain ⟨z, hz, rfl⟩ := List.mem_map.1 hs
      have := hpos z hz
      omega)) (Int.le_refl _)]
  · rfl
  · rw [takeChunks_flatten]
    exact List.filter_congr fun x _ => by cases decide (as ≤ x.1) <;> cases decide (x.1 < ae) <;> rfl

example : splitUnEqualIter [1, 2] 0 0 0 9 false [((1 : Int), (10 : Int)), (2, 20), (5, 50), (6, 60), (8, 80)] =
    some [⟨0, [(1, 10)], 0, 2⟩, ⟨2, [(2, 20), (5, 50)], 2, 6⟩, ⟨6, [(6, 60), (8, 80)], 6, 9⟩] := by decide +kernel

/-- the former defect witness `Fiber([3],[5]).splitUnEqual([])`: one final partition -/
example : splitUnEqualIter [] 0 0 0 4 false [((3 : Int), (5 : Int))] = some [⟨0, [(3, 5)], 0, 4⟩] := by decide +kernel

/-- **splitEqual in position space** (halo 0): the active presented elements are cut into
    consecutive chunks of `step` elements, the remainder last; the first upper coordinate is the
    active start, every other the first coordinate of its chunk; each lower's active range runs
    from its upper coordinate to the next one (the last to the active end) -/
theorem equal_chunks (step as ae : Int) (rel : Bool) (elems : Fib Int π)
    (hstep : 1 ≤ step) (hact : as < ae) (hsorted : Sorted elems) :
    splitEqualIter step 0 0 as ae rel elems =
      some (chunkParts as ae rel (chunksOf step.toNat
        (elems.filter (fun e => decide (as ≤ e.1) && decide (e.1 < ae))))) := by
  rw [splitEqualIter_eq_unEqual step 0 0 as ae rel elems hstep,
    unequal_chunks _ as ae rel elems (fun s hs => by rw [List.eq_of_mem_replicate hs]; exact hstep) hact hsorted,
    List.map_replicate, iterActive_eq_filter as ae elems hsorted,
    ← chunksOf_eq_takeChunks step.toNat (by omega) _ _ (Nat.le_refl _)]

example : splitEqualIter 2 0 0 0 9 false [((1 : Int), (10 : Int)), (2, 20), (5, 50), (6, 60), (8, 80)] =
    some [⟨0, [(1, 10), (2, 20)], 0, 5⟩, ⟨5, [(5, 50), (6, 60)], 5, 8⟩, ⟨8, [(8, 80)], 8, 9⟩] := by decide +kernel


/-- `//`: at most `n` partitions (the chunk size is computed from the raw occupancy `occ`, the
    chunks then count presented active elements — a reading adopted in DESIGN §6) -/
theorem floordiv_parts (occ : Nat) (n as ae : Int) (rel : Bool) (elems : Fib Int π)
    (hn : 0 < n) (hocc : elems.length ≤ occ) :
    (chunkParts as ae rel (chunksOf (floordivStep occ n).toNat
      (elems.filter (fun e => decide (as ≤ e.1) && decide (e.1 < ae))))).length ≤ n.toNat := by
  unfold chunkParts
  rw [chunkPartsFrom_length]
  apply chunksOf_length_le
  have hlen : (elems.filter (fun e => decide (as ≤ e.1) && decide (e.1 < ae))).length ≤ occ :=
    Nat.le_trans (List.length_filter_le _ _) hocc
  unfold floordivStep
  have h1 := Int.lt_ediv_add_one_mul_self ((occ : Int) + n - 1) hn
  rw [add_one_mul_int] at h1
  have hq : 0 ≤ ((occ : Int) + n - 1) / n := Int.ediv_nonneg (by omega) (by omega)
  have hcast : ((n.toNat * (((occ : Int) + n - 1) / n).toNat : Nat) : Int) = n * (((occ : Int) + n - 1) / n) := by
    rw [Int.natCast_mul, Int.toNat_of_nonneg (by omega), Int.toNat_of_nonneg hq]
  have : (occ : Int) ≤ ((n.toNat * (((occ : Int) + n - 1) / n).toNat : Nat) : Int) := by
    rw [hcast, Int.mul_comm]; omega
  omega

end

/-! ### non-vacuity: the hypotheses of the theorems above are satisfiable by non-trivial values
    (the theorems with hypotheses are instantiated; every hypothesis is discharged by evaluation) -/

section

private def exF : Fib Int Int := [(1, 10), (2, 20), (5, 50), (6, 60), (8, 80)]
private theorem exF_sorted : Sorted exF := (sortedB_iff exF).1 (by decide)

example : splitUniformIter 2 1 1 0 9 true exF = some (uSpec 2 1 1 0 9 true exF) :=
  uniform_spec 2 1 1 0 9 true exF (by decide) (by decide) (by decide) (by decide) exF_sorted
example : (uSpec 2 1 1 0 9 true exF).length = 5 := by decide +kernel

example : splitNonUniformIter [0, 3, 12] 1 2 0 9 false exF = some (nuSpec [0, 3, 12] 1 2 0 9 false exF) :=
  nonuniform_spec [0, 3, 12] 1 2 0 9 false exF (by decide) exF_sorted
example : (nuSpec [0, 3, 12] 1 2 0 9 false exF).length = 2 := by decide +kernel
example : (nuSpec [0, 3, 7] 1 2 0 9 false exF).length = 3 := by decide +kernel

example := equal_spec 2 1 0 0 9 false exF (by decide) exF_sorted
example := unequal_spec [1, 2] 0 1 0 9 false exF (by decide) exF_sorted
example := equal_chunks 2 0 9 false exF (by decide) (by decide) exF_sorted
example := unequal_chunks [1, 2] 0 9 false exF (by decide) (by decide) exF_sorted
example := unequal_chunks [] 0 9 false exF (by decide) (by decide) exF_sorted

example := upper_ascending 2 1 1 0 9 false exF (by decide)
example := upper_ascending_nonuniform [0, 3, 7] 1 2 0 9 false exF (by decide)
example := halo_membership 2 1 1 0 9 exF (by decide) ⟨4, [(5, 50), (6, 60)], 4, 6⟩ (by decide)
example := halo_cover 2 1 1 0 9 exF (by decide) 4 (by decide) (by decide) (by decide) (6, 60)
  (by decide) (by decide) (by decide) (by decide) (by decide)
example := halo_membership_nonuniform [0, 3, 7] 1 2 0 9 exF ⟨3, [(2, 20), (5, 50), (6, 60), (8, 80)], 3, 7⟩ (by decide)
example := lossless 2 0 9 exF (by decide) exF_sorted
example := lossless_nonuniform [2, 6] 0 9 exF (by decide) exF_sorted
example := lossless_position [0, 5] 0 9 exF (by decide) exF_sorted rfl
example := active_clip 4 1 1 1 7 exF (by decide) (by decide) ⟨4, [(5, 50), (6, 60)], 4, 7⟩ (by decide)
example := active_contains 4 1 7 exF (by decide) ⟨4, [(5, 50), (6, 60)], 4, 7⟩ (by decide)
example := active_clip_nonuniform [0, 3, 7] 0 0 1 8 exF (by decide) (by decide) ⟨0, [(1, 10), (2, 20)], 1, 3⟩ (by decide)
example := resplit_tiles 4 2 0 9 exF (by decide) (by decide) exF_sorted
example := split_spec_on (.equal 2) 1 1 0 9 false exF (presentU (0 : Int) 0 0 9 (show Tree Int Int 1 from exF)) trivial (by decide) exF_sorted (presentU_sorted _ _ _ _ _)
example : (presentU (0 : Int) 0 0 4 (show Tree Int Int 1 from [((1 : Int), (10 : Int))])) =
    ([(0, 0), (1, 10), (2, 0), (3, 0)] : List (Int × Int)) := by rfl
example := resplit_tiles_relative 4 2 0 9 exF (by decide) (by decide) exF_sorted
example := truediv_parts 9 2 false exF (by decide) (by decide)
example := floordiv_parts 5 2 0 9 false exF (by decide) (by decide)

/-- the former defect witness: every fiber of depth 1 is split, the empty one included -/
private def exT : Tree Int Int (0 + 1 + 1) :=
  show List (Int × List (Int × Int)) from [(0, [(0, 1), (1, 2)]), (1, []), (2, [(3, 4)])]

private def exR : Tree Int Int (0 + 2 + 1) :=
  show List (Int × List (Int × List (Int × Int))) from
    [(0, [(0, [(0, 1), (1, 2)])]), (1, []), (2, [(2, [(3, 4)])])]

private def exCfg : SplitCfg := { op := .uniform 2 }

private theorem exT_split : splitAt exCfg 0 0 1 exT = some exR := by decide +kernel

example := depth_spec exCfg 0 0 1 exT exR exT_split [2]
example := depth_coords exCfg 0 0 0 exT exR exT_split

end

end Ft
