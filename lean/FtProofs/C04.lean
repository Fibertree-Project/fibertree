/-
  C04 — co-iteration operators compute exactly their coordinate-set truth tables.
  Property theorems only; helper lemmas live in FtProofs/Lemmas.
-/
import FtProofs.Lemmas.Merge
set_option linter.unusedSectionVars false
namespace Ft
open StrictTotal

section
variable {κ : Type} [LT κ] [DecidableRel (α := κ) (· < ·)] [DecidableEq κ] [StrictTotal κ]
variable {α β : Type}

/-- `a & b` on sorted operands is the filter-map of `a` by membership in `b`: ascending,
    each common coordinate once, both operands' own payloads. -/
theorem and_spec (a : Fib κ α) (b : Fib κ β) (ha : Sorted a) (hb : Sorted b) :
    andMerge a b = andSpec a b := by
  fun_induction andMerge a b with
  | case1 b => rfl
  | case2 e r => exact (List.filterMap_eq_nil_iff.2 (fun _ _ => rfl)).symm
  | case3 pa ra ca pb rb ih =>
    rw [andSpec_cons_cons_self, andSpec_cons_right_of_lt (e := (ca, pb)) ha.head_lt, ih ha.tail hb.tail]
  | case4 ca pa ra cb pb rb hne hlt ih =>
    rw [andSpec_cons_left_of_lt (hb.lt_of_lt_head hlt), ih ha.tail hb]
  | case5 ca pa ra cb pb rb hne hnlt ih =>
    rw [andSpec_cons_right_of_lt (ha.lt_of_lt_head (gt_of_not_lt_ne hne hnlt)), ih ha hb.tail]

/-- `a - b` on sorted operands: the elements of `a` whose coordinate `b` lacks. -/
theorem sub_spec (a : Fib κ α) (b : Fib κ β) (ha : Sorted a) (hb : Sorted b) :
    subMerge a b = subSpec a b := by
  fun_induction subMerge a b with
  | case1 b => rfl
  | case2 e r => exact (List.filter_eq_self.2 (fun _ _ => rfl)).symm
  | case3 pa ra ca pb rb ih =>
    rw [subSpec_cons_cons_self, subSpec_cons_right_of_lt (e := (ca, pb)) ha.head_lt, ih ha.tail hb.tail]
  | case4 ca pa ra cb pb rb hne hlt ih =>
    rw [subSpec_cons_left_of_lt (hb.lt_of_lt_head hlt), ih ha.tail hb]
  | case5 ca pa ra cb pb rb hne hnlt ih =>
    rw [subSpec_cons_right_of_lt (ha.lt_of_lt_head (gt_of_not_lt_ne hne hnlt)), ih ha hb.tail]

/-- `a | b` on sorted operands satisfies the union truth table: ascending, every row has
    the operands' own payloads and a mask naming exactly the sides present, and every
    operand coordinate is covered. -/
theorem or_sound [DecidableEq α] [DecidableEq β] (a : Fib κ α) (b : Fib κ β)
    (ha : Sorted a) (hb : Sorted b) : orSpecB a b (orMerge a b) = true := by
  simp only [orSpecB, Bool.and_eq_true, List.all_eq_true]
  refine ⟨⟨⟨(sortedB_iff _).2 (orMerge_sorted a b ha hb), ?_⟩, ?_⟩, ?_⟩
  · intro row hrow; exact (orRowOk_iff a b row).2 (orMerge_rows a b ha hb row hrow)
  · intro e he; exact (hasCoord_iff _ _).2 (orMerge_cover a b e.1 (Or.inl ⟨e, he, rfl⟩))
  · intro e he; exact (hasCoord_iff _ _).2 (orMerge_cover a b e.1 (Or.inr ⟨e, he, rfl⟩))

/-- The union truth table determines the output: any list that passes the executable
    union check is the model's union. (So checking the spec on the implementation's
    output and comparing it with the model's output are the same test.) -/
theorem or_complete [DecidableEq α] [DecidableEq β] (a : Fib κ α) (b : Fib κ β)
    (ha : Sorted a) (hb : Sorted b) (out : Fib κ (Mask × Option α × Option β))
    (h : orSpecB a b out = true) : out = orMerge a b := by
  simp only [orSpecB, Bool.and_eq_true, List.all_eq_true] at h
  obtain ⟨⟨⟨hs, hrows⟩, hca⟩, hcb⟩ := h
  refine orMerge_unique a b ha hb out ((sortedB_iff _).1 hs)
    (fun r hr => (orRowOk_iff a b r).1 (hrows r hr)) ?_
  rintro c (⟨e, he, rfl⟩ | ⟨e, he, rfl⟩)
  · exact (hasCoord_iff _ _).1 (hca e he)
  · exact (hasCoord_iff _ _).1 (hcb e he)

/-- `a ^ b` is `a | b` without the rows present on both sides. -/
theorem xor_eq_filter_or (a : Fib κ α) (b : Fib κ β) :
    xorMerge a b = (orMerge a b).filter (fun r => decide (r.2.1 ≠ Mask.AB)) := by
  -- in each case one step of `orMerge` unfolds: an `AB` row is filtered out, an `A` or `B` row is kept
  fun_induction xorMerge a b with
  | case1 b => simp [orMerge, List.filter_map]; rw [List.filter_eq_self.2]; intro x _; simp
  | case2 e r =>
    rw [orMerge]
    · symm; rw [List.filter_eq_self]; intro x hx
      obtain ⟨y, _, rfl⟩ := List.mem_map.1 hx; simp
  | case3 pa ra ca pb rb ih => simp [orMerge, ih]
  | case4 ca pa ra cb pb rb hne hlt ih => simp [orMerge, hne, hlt, ih]
  | case5 ca pa ra cb pb rb hne hnlt ih => simp [orMerge, hne, hnlt, ih]

end
end Ft
