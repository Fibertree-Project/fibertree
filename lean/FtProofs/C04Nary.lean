/-
  C04 (continued) — n-ary intersection / union and leader–follower intersection.
  Property theorems only; helpers in FtProofs/Lemmas/NaryLemmas.lean.
-/
import FtProofs.Lemmas.NaryLemmas
import FtProofs.Lemmas.PointLemmas
namespace Ft
open StrictTotal

section
variable {κ α β : Type} [LT κ] [DecidableRel (α := κ) (· < ·)] [DecidableEq κ] [StrictTotal κ]

/-- **n-ary intersection**: exactly the coordinates presented by every operand, ascending, each
    once, with the operands' own payloads as one flat tuple in operand order -/
theorem nary_and_spec (a : Fib κ α) (rest : List (Fib κ α)) (ha : Sorted a) (hr : ∀ b ∈ rest, Sorted b) :
    naryAnd a rest = naryAndSpec a rest := by
  unfold naryAnd naryAndSpec
  rw [foldl_and_spec rest _ (sorted_map_key a (fun e => [e.2]) ha) hr, List.filterMap_map]
  apply filterMap_congr'
  intro e _
  simp [Function.comp]

/-- **n-ary union** satisfies its truth table: ascending; the row at a coordinate holds every
    operand's own payload or a fresh default for the operands that lack it (hence the mask letters
    name exactly the operands present); at least one operand is present; every operand
    coordinate is covered -/
theorem nary_or_sound [DecidableEq α] (a : Fib κ α) (rest : List (Fib κ α)) (ha : Sorted a)
    (hr : ∀ b ∈ rest, Sorted b) : naryOrSpecB (a :: rest) (naryOr a rest) = true := by
  have hinv := naryOr_inv a rest ha hr
  unfold naryOrSpecB
  simp only [Bool.and_eq_true, List.all_eq_true, decide_eq_true_eq]
  refine ⟨⟨(sortedB_iff _).2 hinv.sorted, fun row hrow => hinv.rows row hrow⟩, ?_⟩
  intro b hb e he
  exact (hasCoord_iff _ _).2 (hinv.cover b hb e he)

/-- The n-ary union truth table determines the output. -/
theorem nary_or_complete [DecidableEq α] (a : Fib κ α) (rest : List (Fib κ α)) (ha : Sorted a)
    (hr : ∀ b ∈ rest, Sorted b) (out : Fib κ (List (Option α)))
    (h : naryOrSpecB (a :: rest) out = true) : out = naryOr a rest := by
  have hinv := naryOr_inv a rest ha hr
  unfold naryOrSpecB at h
  simp only [Bool.and_eq_true, List.all_eq_true, decide_eq_true_eq] at h
  obtain ⟨⟨hs, hrows⟩, hcov⟩ := h
  -- both lists are sorted, their rows are `naryOrRow` of the key, and each covers the other's keys
  refine sorted_ext_of_fn (F := naryOrRow (a :: rest)) out _ ((sortedB_iff _).1 hs) hinv.sorted
    (fun r hr' => (hrows r hr').1) (fun r hr' => (hinv.rows r hr').1) (fun c => ⟨?_, ?_⟩)
  · rintro ⟨r, hr', rfl⟩
    obtain ⟨e1, e2⟩ := hrows r hr'
    obtain ⟨b, hb, e, he, hec⟩ := exists_hasKey_of_any_naryOrRow (e1 ▸ e2)
    exact hec ▸ hinv.cover b hb e he
  · rintro ⟨r, hr', rfl⟩
    obtain ⟨e1, e2⟩ := hinv.rows r hr'
    obtain ⟨b, hb, e, he, hec⟩ := exists_hasKey_of_any_naryOrRow (e1 ▸ e2)
    exact hec ▸ (hasCoord_iff _ _).1 (hcov b hb e he)

/-- **leader–follower**: every leader element, in order, with each follower's stored payload at
    that coordinate, or a fresh default where the follower stores nothing there -/
theorem leaderFollower_spec (a : Fib κ α) (bs : List (Fib κ β)) (hb : ∀ b ∈ bs, Sorted b) :
    leaderFollower a bs = a.map (fun e => (e.1, (e.2, bs.map (fun b => lookup b e.1)))) := by
  unfold leaderFollower
  apply List.map_congr_left
  intro e _
  congr 2
  apply List.map_congr_left
  intro b hbm
  exact posLookup_eq_lookup (hb b hbm) e.1

end

/-! ### non-vacuity (tests) -/
section
private def a1 : Fib Int Int := [(0, 1), (2, 2), (5, 3)]
private def a2 : Fib Int Int := [(2, 7), (3, 8), (5, 9)]
private def a3 : Fib Int Int := [(1, 4), (5, 6)]
example : Sorted a1 ∧ Sorted a2 ∧ Sorted a3 :=
  ⟨(sortedB_iff a1).1 (by decide), (sortedB_iff a2).1 (by decide), (sortedB_iff a3).1 (by decide)⟩
#guard naryAnd a1 [a2, a3] == [(5, [3, 9, 6])]
#guard naryOr a1 [a2, a3] == [(0, [some 1, none, none]), (1, [none, none, some 4]), (2, [some 2, some 7, none]),
  (3, [none, some 8, none]), (5, [some 3, some 9, some 6])]
#guard (naryOr a1 [a2, a3]).map (fun r => naryMask r.2) == ["A", "C", "AB", "B", "ABC"]
#guard leaderFollower a1 [a2, a3] == [(0, 1, [none, none]), (2, 2, [some 7, none]), (5, 3, [some 9, some 6])]
end
end Ft
