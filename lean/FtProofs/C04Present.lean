/-
  C04 / C05, uncompressed operands: what a "U" rank presents is C07's dense iteration; the merge theorems of C04
  are stated for any sorted presented lists, so they apply to it through `presentDense_spec`.
-/
import FtModel.Present
import FtProofs.C04
import FtProofs.C07
namespace Ft
open StrictTotal Ft.C07

section
variable {π : Type}

theorem presentDense_eq (mk : π) (f : Fib Int π) (hs : Sorted f) (lo hi : Int) :
    presentDense mk lo hi f = (pyRange lo hi 1).map (fun c => (c, (lookupPos mk f c).1)) := by
  unfold presentDense
  rw [iterRangeShape_spec mk f hs lo hi 1]
  unfold shapeSpec
  rw [List.map_map]
  rfl

/-- **C04/C05, uncompressed operand.**  A rank declared uncompressed presents exactly the coordinates of its active
    range `[lo, hi)`, ascending and each once; for each it delivers the operand's own stored payload (position `i`,
    whatever its value) if the coordinate is stored and a fresh default (`none`) if it is not. -/
theorem presentDense_spec (mk : π) (f : Fib Int π) (hs : Sorted f) (lo hi : Int) :
    Sorted (presentDense mk lo hi f) ∧
    (presentDense mk lo hi f).map (·.1) = pyRange lo hi 1 ∧
    ∀ x ∈ presentDense mk lo hi f,
      match x.2 with
      | some i => ∃ p, f[i]? = some (x.1, p)
      | none => lookup f x.1 = none := by
  rw [presentDense_eq mk f hs lo hi]
  refine ⟨?_, ?_, ?_⟩
  · unfold Sorted
    rw [List.pairwise_map]
    exact (pyRange_spec lo hi 1).2
  · rw [List.map_map]; simp [Function.comp_def]
  · intro x hx
    obtain ⟨c, _, rfl⟩ := List.mem_map.1 hx
    cases h : (lookupPos mk f c).1 with
    | some i => exact ⟨_, (shapeSpec_row mk f c).2.1 i h⟩
    | none => exact (shapeSpec_row mk f c).2.2 h

/-- Intersection against an uncompressed operand is the set intersection over its whole active range
    (instance of `and_spec`; the same instantiation applies to `sub_spec`, `or_sound`/`or_complete`, the n-ary and
    leader–follower theorems, which are all stated for arbitrary sorted presented lists) -/
theorem and_spec_uncompressed {β : Type} (mk : π) (a : Fib Int π) (ha : Sorted a) (lo hi : Int)
    (b : Fib Int β) (hb : Sorted b) :
    andMerge (presentDense mk lo hi a) b = andSpec (presentDense mk lo hi a) b :=
  and_spec _ _ (presentDense_spec mk a ha lo hi).1 hb

end

/-! non-vacuity: shape 4, stored {0 ↦ 5, 2 ↦ 0}: all four coordinates, the explicit default at 2 is the operand's own -/
#guard presentDense (0 : Int) 0 4 ([(0, 5), (2, 0)] : Fib Int Int) == [(0, some 0), (1, none), (2, some 1), (3, none)]
#guard presentDense (0 : Int) 1 3 ([(0, 5), (2, 0)] : Fib Int Int) == [(1, none), (2, some 1)]
end Ft
