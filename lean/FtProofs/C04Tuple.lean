/-
  C04 (continued) — tuple coordinates: the generic merge theorems of FtProofs/C04.lean apply at
  `κ := TCoord` (lexicographic order is a strict total order), and a fiber with shorter tuple
  coordinates matches on the common prefix.
-/
import FtProofs.Lemmas.TupleLemmas
import FtProofs.C04
namespace Ft
open StrictTotal

section
variable {α β : Type}

/-- **prefix matching**: for a sorted operand `a` with `k`-tuple coordinates and a sorted operand
    `b` with longer tuples, `a & b` yields exactly the elements of `b` whose `k`-prefix `a` presents,
    in `b`'s (ascending) order, each once, with `a`'s payload for the prefix and `b`'s own payload -/
theorem prefix_spec (k : Nat) (a : Fib TCoord α) (b : Fib TCoord β) (ha : Sorted a) (hb : Sorted b) :
    prefixAndMerge k a b = prefixAndSpec k a b := by
  fun_induction prefixAndMerge k a b with
  | case1 b => exact (List.filterMap_eq_nil_iff.2 (fun _ _ => rfl)).symm
  | case2 e r => rfl
  | case3 pa ra cb pb rb ih =>
    rw [ih ha hb.tail]
    unfold prefixAndSpec
    rw [List.filterMap_cons, lookup_cons_self]
    rfl
  | case4 ca pa ra cb pb rb hne hlt ih =>
    rw [ih ha.tail hb]
    refine filterMap_congr' fun e he => ?_
    -- every coordinate of b has a prefix at least cb's prefix, hence above ca
    have hge : ca < e.1.take k := by
      rcases List.mem_cons.1 he with rfl | he'
      · exact hlt
      · rcases TCoord.take_mono k (hb.head_lt e he') with h | h
        · exact trans hlt h
        · exact h ▸ hlt
    rw [lookup_cons_ne (lt_ne hge)]
  | case5 ca pa ra cb pb rb hne hnlt ih =>
    rw [ih ha hb.tail]
    unfold prefixAndSpec
    rw [List.filterMap_cons, lookup_eq_none_of_lt (ha.lt_of_lt_head (gt_of_not_lt_ne hne hnlt))]
    rfl

/-- the two-operand truth tables hold verbatim for tuple coordinates -/
theorem and_spec_tuple (a : Fib TCoord α) (b : Fib TCoord β) (ha : Sorted a) (hb : Sorted b) :
    andMerge a b = andSpec a b := and_spec a b ha hb

theorem or_sound_tuple [DecidableEq α] [DecidableEq β] (a : Fib TCoord α) (b : Fib TCoord β)
    (ha : Sorted a) (hb : Sorted b) : orSpecB a b (orMerge a b) = true := or_sound a b ha hb

end

/-! ### non-vacuity (tests) -/
section
private def sh : Fib TCoord Int := [(⟨[1]⟩, 7), (⟨[3]⟩, 8)]
private def lg : Fib TCoord Int := [(⟨[1, 2]⟩, 1), (⟨[1, 3]⟩, 2), (⟨[2, 5]⟩, 3), (⟨[3, 0]⟩, 4)]
example : Sorted sh ∧ Sorted lg := ⟨(sortedB_iff sh).1 (by decide), (sortedB_iff lg).1 (by decide)⟩
#guard prefixAndMerge 1 sh lg == [(⟨[1, 2]⟩, (7, 1)), (⟨[1, 3]⟩, (7, 2)), (⟨[3, 0]⟩, (8, 4))]
end
end Ft
