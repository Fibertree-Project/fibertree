/-
  C12 — equality, emptiness and counting depend on content only.
  Property theorems only; helpers in FtProofs/Lemmas/{Content,EqLemmas}.lean.
-/
import FtProofs.Lemmas.EqLemmas
set_option linter.unusedSectionVars false
namespace Ft
open StrictTotal

section
variable {κ ν : Type} [LT κ] [DecidableRel (α := κ) (· < ·)] [DecidableEq κ] [StrictTotal κ] [DecidableEq ν]

/-- **C12, equality.** Two well-formed fibers compare equal exactly when they hold the same
    non-default leaf values at the same points (each side relative to its own default) —
    whatever explicit defaults or empty sub-fibers they carry. -/
theorem eq_iff_content (da db : ν) (d : Nat) (a b : Tree κ ν (d + 1))
    (ha : WF (d + 1) a) (hb : WF (d + 1) b) :
    fiberEq da db (d + 1) a b = true ↔ content da (d + 1) a = content db (d + 1) b :=
  fiberEq_succ_iff da db d a b ha hb (presented_eq_iff da db d a b ha hb)

/-- equality is reflexive (hence a deep copy — the same model value — equals its original) -/
theorem eq_refl (da : ν) (d : Nat) (a : Tree κ ν (d + 1)) (ha : WF (d + 1) a) :
    fiberEq da da (d + 1) a a = true := (eq_iff_content da da d a a ha ha).2 rfl

theorem eq_symm (da db : ν) (d : Nat) (a b : Tree κ ν (d + 1)) (ha : WF (d + 1) a) (hb : WF (d + 1) b) :
    fiberEq da db (d + 1) a b = fiberEq db da (d + 1) b a := by
  rw [Bool.eq_iff_iff, eq_iff_content da db d a b ha hb, eq_iff_content db da d b a hb ha]
  exact eq_comm

theorem eq_trans (da db dc : ν) (d : Nat) (a b c : Tree κ ν (d + 1))
    (ha : WF (d + 1) a) (hb : WF (d + 1) b) (hc : WF (d + 1) c)
    (h1 : fiberEq da db (d + 1) a b = true) (h2 : fiberEq db dc (d + 1) b c = true) :
    fiberEq da dc (d + 1) a c = true := by
  rw [eq_iff_content _ _ d _ _ ha hb] at h1
  rw [eq_iff_content _ _ d _ _ hb hc] at h2
  rw [eq_iff_content _ _ d _ _ ha hc, h1, h2]

/-- **emptiness**: a tree is empty exactly when it has no non-default point -/
theorem isEmpty_iff (dflt : ν) (d : Nat) (t : Tree κ ν d) :
    isEmpty dflt d t = true ↔ content dflt d t = [] := isEmpty_iff_content dflt d t

/-- **counting**: the value count is the number of non-default points -/
theorem countValues_eq (dflt : ν) (d : Nat) (t : Tree κ ν d) :
    countValues dflt d t = (content dflt d t).length := by
  revert t
  induction d with
  | zero =>
    intro v
    show (if (show ν from v) = dflt then 0 else 1) = (if (show ν from v) = dflt then [] else [([], (show ν from v))]).length
    by_cases h : (show ν from v) = dflt <;> simp [h]
  | succ d ih =>
    intro f
    show ((show List (κ × Tree κ ν d) from f).map (fun e => countValues dflt d e.2)).sum = _
    rw [content_succ, List.length_flatMap]
    exact congrArg List.sum (List.map_congr_left fun e _ => by rw [ih e.2, pre, List.length_map])

/-- **pruning** keeps the content -/
theorem nonEmpty_content (dflt : ν) : ∀ (d : Nat) (t : Tree κ ν d),
    content dflt d (nonEmpty dflt d t) = content dflt d t := by
  intro d
  induction d with
  | zero => intro _; rfl
  | succ d ih =>
    intro f
    rw [content_present dflt d f, content_succ]
    show List.flatMap _ ((present dflt d f).map (fun e => (e.1, nonEmpty dflt d e.2))) = _
    rw [List.flatMap_map]
    congr 1
    funext e
    rw [ih e.2]

theorem isEmpty_nonEmpty (dflt : ν) (d : Nat) (t : Tree κ ν d) :
    isEmpty dflt d (nonEmpty dflt d t) = isEmpty dflt d t := by
  rw [Bool.eq_iff_iff, isEmpty_iff_content, isEmpty_iff_content, nonEmpty_content]

/-- the pruned copy holds no explicit default and no empty sub-fiber -/
theorem nonEmpty_canonical (dflt : ν) : ∀ (d : Nat) (t : Tree κ ν d),
    Canonical dflt d (nonEmpty dflt d t) := by
  intro d
  induction d with
  | zero => intro _; trivial
  | succ d ih =>
    intro f e he
    obtain ⟨x, hx, rfl⟩ := List.mem_map.1 he
    refine ⟨?_, ih x.2⟩
    show isEmpty dflt d (nonEmpty dflt d x.2) = false
    rw [isEmpty_nonEmpty]
    exact (mem_present.1 hx).2

/-- the pruned copy of a well-formed tree is well-formed -/
theorem nonEmpty_wf (dflt : ν) : ∀ (d : Nat) (t : Tree κ ν d), WF d t → WF d (nonEmpty dflt d t) := by
  intro d
  induction d with
  | zero => intro _ _; trivial
  | succ d ih =>
    intro f h
    refine ⟨sorted_map_key _ (fun e => nonEmpty dflt d e.2) (present_sorted h.sorted), ?_⟩
    intro e he
    obtain ⟨x, hx, rfl⟩ := List.mem_map.1 he
    exact ih x.2 (h.sub x (mem_present.1 hx).1)

/-- the pruned copy is an equal tree -/
theorem nonEmpty_eq (dflt : ν) (d : Nat) (a : Tree κ ν (d + 1)) (ha : WF (d + 1) a) :
    fiberEq dflt dflt (d + 1) (nonEmpty dflt (d + 1) a) a = true :=
  (eq_iff_content dflt dflt d _ a (nonEmpty_wf dflt (d + 1) a ha) ha).2 (nonEmpty_content dflt (d + 1) a)

end

/-! ### non-vacuity: a depth-2 tree with an explicit default and an empty sub-fiber satisfies
the hypotheses (`WF`), and the functions behave non-trivially on it (`#guard` lines are tests). -/
section
private def exA : Tree Int Int 2 := [(0, [(1, (5 : Int)), (2, (0 : Int))]), (3, []), (4, [(0, (7 : Int))])]
private def exB : Tree Int Int 2 := [(0, [(1, (5 : Int))]), (4, [(0, (7 : Int)), (9, (0 : Int))])]
example : WF 2 exA := (wfB_iff 2 exA).1 (by decide)
example : WF 2 exB := (wfB_iff 2 exB).1 (by decide)
#guard fiberEq 0 0 2 exA exB
#guard content 0 2 exA == [([0, 1], 5), ([4, 0], 7)]
#guard countValues 0 2 exA == 2
#guard !(isEmpty 0 2 exA)
#guard canonicalB 0 2 (nonEmpty 0 2 exA) && !(canonicalB 0 2 exA)
end
end Ft
