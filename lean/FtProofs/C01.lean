/-
  C01 — fibertrees stay well-formed under every history of public mutations.
  Property theorems only; helpers in FtProofs/Lemmas/{MutLemmas,PopLemmas,PointLemmas}.lean.
  (Uniform depth and single boxing are carried by the type `Tree Int ν d`; that the
  implementation's stored objects have this shape is checked on every observed state by the
  driver's `rawWF`, which is the executable side of this property.)
-/
import FtProofs.Lemmas.MutLemmas
import FtProofs.C05
import FtProofs.C12
set_option linter.unusedSectionVars false
namespace Ft
open StrictTotal

section
variable {ν : Type} [DecidableEq ν]

/-- the fiber arguments of an operation are themselves well-formed (they are `Fiber` objects
    built by a public constructor) -/
def TreeArg.WFArg (a : TreeArg ν) : Prop := ∀ d v, a.get d = some v → WF d v

/-- the fiber arguments of an operation are well-formed; operations without fiber arguments ask nothing -/
def MutOp.ArgsWF : MutOp ν → Prop
  | .append _ _ v => v.WFArg
  | .extend _ g => g.WFArg
  | .setitem _ _ _ (some v) => v.WFArg
  | .assignF _ g => g.WFArg
  | .populate _ a _ _ => a.WFArg
  | _ => True

/-- nested populate loops keep the destination well-formed -/
theorem popNest_wf (dflt : ν) (leafF : List Int → ν → ν → ν) (skip : List Int → Inner Int) :
    ∀ (d : Nat) (pre : List Int) (z a : Tree Int ν (d + 1)), WF (d + 1) z → WF (d + 1) a →
      WF (d + 1) (popNest dflt leafF skip d pre z a) := by
  intro d
  induction d with
  | zero =>
    intro pre z a hz ha
    simp only [popNest]
    exact populate_wf dflt 0 _ z _ (fun _ _ _ _ _ => trivial) hz (present_sorted ha.sorted)
  | succ d ih =>
    intro pre z a hz ha
    simp only [popNest]
    apply populate_wf dflt (d + 1) _ z _ _ hz (present_sorted ha.sorted)
    intro c cur bp hmem hcur
    cases hs : skip (pre ++ [c]) with
    | skip => exact hcur
    | touch c' => exact posrefF_wf dflt hcur c'
    | recurse => exact ih (pre ++ [c]) cur bp hcur (ha.sub _ (mem_present.1 hmem).1)

theorem denseRefF_wf (dflt : ν) (d : Nat) (cs : List Int) : ∀ (f : Tree Int ν (d + 1)), WF (d + 1) f →
    WF (d + 1) (denseRefF dflt d f cs) := by
  unfold denseRefF
  induction cs with
  | nil => intro f h; exact h
  | cons c r ih => intro f h; exact ih _ (refAt_wf dflt (d + 1) f h [c])

/-- every fiber-level mutator keeps the fiber it is applied to well-formed -/
theorem fiberStep_wf (dflt : ν) (op : MutOp ν) (hop : op.ArgsWF) (d : Nat) (f : Tree Int ν (d + 1))
    (h : WF (d + 1) f) : WF (d + 1) (fiberStep dflt op d f).1 := by
  cases op with
  | ref p => exact h
  | posref a c => exact posrefF_wf dflt h c
  | append a c v =>
    simp only [fiberStep]
    cases hv : v.get d with
    | none => exact h
    | some x => exact appendF_wf h c (hop d x hv)
  | extend a g =>
    simp only [fiberStep]
    cases hv : g.get (d + 1) with
    | none => exact h
    | some x => exact extendF_wf h (hop (d + 1) x hv) _
  | setitem a pos c v =>
    cases v with
    | none => exact setitemF_wf h pos c (fun _ hx => nomatch hx)
    | some arg =>
      simp only [fiberStep]
      cases hv : arg.get d with
      | none => exact h
      | some x => exact setitemF_wf h pos c (fun y hy => Option.some.inj hy ▸ hop d x hv)
  | clear a => exact ⟨List.Pairwise.nil, fun _ h => by cases h⟩
  | updCoords a k m =>
    simp only [fiberStep]
    by_cases hk : k = 0
    · simp only [hk, if_true]; exact h
    · simp only [hk, if_false]; exact updCoordsF_wf k m hk h
  | updPayloads a g =>
    cases d with
    | zero =>
      simp only [fiberStep]
      exact ⟨sorted_map_key _ (fun e => (g (show ν from e.2) : ν)) h.sorted, fun _ _ => trivial⟩
    | succ d' => exact h
  | denseRef a cs w =>
    have ht := denseRefF_wf dflt d cs f h
    cases d with
    | zero => exact foldl_writeLeaf_wf cs w _ ht
    | succ d' => exact ht
  | assignF a g =>
    simp only [fiberStep]
    cases hv : g.get (d + 1) with
    | none => exact h
    | some x => exact nonEmpty_wf dflt (d + 1) x (hop (d + 1) x hv)
  | populate a src leafF skip =>
    simp only [fiberStep]
    cases hv : src.get (d + 1) with
    | none => exact h
    | some x => exact popNest_wf dflt leafF skip d [] f x h (hop (d + 1) x hv)

/-- **one step**: every public mutator, applied at any sub-fiber with any arguments, maps a
    well-formed tree to a well-formed tree (whether it is accepted or rejected) -/
theorem step_wf (dflt : ν) (d : Nat) (t : Tree Int ν (d + 1)) (op : MutOp ν) (hop : op.ArgsWF)
    (h : WF (d + 1) t) : WF (d + 1) (mstep dflt d t op).1 := by
  cases op with
  | ref p => exact refAt_wf dflt (d + 1) t h p
  | _ => exact atPath_wf _ (fiberStep_wf dflt _ hop) d t _ h

/-- **every history**: after any finite sequence of public mutators, starting from any
    well-formed tree, the tree is well-formed (and so is every intermediate tree: apply this
    to each prefix of the history) -/
theorem run_wf (dflt : ν) (d : Nat) : ∀ (ops : List (MutOp ν)) (t : Tree Int ν (d + 1)),
    (∀ op ∈ ops, op.ArgsWF) → WF (d + 1) t → WF (d + 1) (mrun dflt d t ops) := by
  intro ops
  induction ops with
  | nil => exact fun _ _ h => h
  | cons op ops ih =>
    exact fun t hops h => ih _ (fun o ho => hops o (List.mem_cons_of_mem _ ho))
      (step_wf dflt d t op (hops op (List.mem_cons_self ..)) h)

/-- **a rejected order-violating operation leaves the tree exactly as it was** (append, extend,
    position assignment: the checks precede the writes) -/
theorem rejected_unchanged (dflt : ν) (d : Nat) (t : Tree Int ν (d + 1)) (op : MutOp ν)
    (hkind : (∃ a c v, op = .append a c v) ∨ (∃ a g, op = .extend a g) ∨ (∃ a p c v, op = .setitem a p c v))
    (h : WF (d + 1) t) (hr : (mstep dflt d t op).2 ≠ .ok) : (mstep dflt d t op).1 = t := by
  rcases hkind with ⟨a, c, v, rfl⟩ | ⟨a, g, rfl⟩ | ⟨a, p, c, v, rfl⟩
  · refine atPath_rejected _ ?_ d t a h hr
    intro d' f hr'
    simp only [fiberStep] at hr' ⊢
    cases hv : v.get d' with
    | none => rfl
    | some x => simp only [hv] at hr'; exact appendF_rejected _ c x hr'
  · refine atPath_rejected _ ?_ d t a h hr
    intro d' f hr'
    simp only [fiberStep] at hr' ⊢
    cases hv : g.get (d' + 1) with
    | none => rfl
    | some x => simp only [hv] at hr'; exact extendF_rejected _ _ _ hr'
  · refine atPath_rejected _ ?_ d t a h hr
    intro d' f hr'
    cases v with
    | none => simp only [fiberStep] at hr' ⊢; exact setitemF_rejected _ p c none hr'
    | some arg =>
      simp only [fiberStep] at hr' ⊢
      cases hv : arg.get d' with
      | none => rfl
      | some x => simp only [hv] at hr'; exact setitemF_rejected _ p c (some x) hr'

end

/-! ### non-vacuity: a tree with an explicit zero and an empty sub-fiber is well-formed, and a
    history that hits insertion, an order-violating append, a position assignment, a coordinate
    reversal and a clear runs through `mrun` (tests) -/
section
private def t0 : Tree Int Int 2 := [(0, [(1, (5 : Int)), (2, (0 : Int))]), (3, []), (4, [(0, (7 : Int))])]
example : WF 2 t0 := (wfB_iff 2 t0).1 (by decide)
private def leafArg (v : Int) : TreeArg Int := ⟨fun d => match d with | 0 => some (v : Int) | _ => none⟩
private def hist : List (MutOp Int) :=
  [.ref [2, 2], .append [0] 1 (leafArg 9), .append [0] 7 (leafArg 9), .setitem [4] 0 (some 3) none,
   .updCoords [0] (-1) 0, .clear [3], .posref [] 9]
private theorem leafArg_wf (v : Int) : (leafArg v).WFArg := fun d _ h => by
  cases d with
  | zero => trivial
  | succ _ => cases h
example : ∀ op ∈ hist, op.ArgsWF := by
  intro op hop
  simp only [hist, List.mem_cons, List.mem_nil_iff, or_false] at hop
  rcases hop with rfl | rfl | rfl | rfl | rfl | rfl | rfl
  · trivial
  · exact leafArg_wf 9
  · exact leafArg_wf 9
  · trivial
  · trivial
  · trivial
  · trivial
#guard wfB 2 (mrun 0 1 t0 hist)
#guard (mstep 0 1 t0 (.append [0] 1 (leafArg 9))).2 == .rejectedOrder
end
end Ft
