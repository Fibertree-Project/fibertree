/-
  C09 — rank transforms move every point to its image and nothing else.
  Property theorems only; helper lemmas live in FtProofs/Lemmas/Transform.lean.

  Reading guide.  `swizzle`, `swapFiber`, `mergeLv` (`_mergeRanksHelper`), `unflatLv`
  (`unflattenRanks`), `atDepth` (`updatePayloads` descent of every `…Below` form) in
  FtModel/Transform.lean mirror the Python loops; `none` = the implementation raises.
  `content dflt d t` is the tensor as a map point → value (ascending list of the non-default
  leaves with their coordinate lists).  The fiber-level functions are generic in the coordinate
  type; tuple coordinates are `Coord = List Int` (an integer coordinate is a singleton).
  `z` is `Payload(0)`, the default the implementation falls back to for fibers it creates itself:
  `flatten_content_partial` and `flattenT_tuple_content` are stated with `z = dflt` and the
  non-linear styles (`lin = false`), for any `dflt`; the one-level results (`merge_leaf_spec`,
  `flatten_unflatten_roundtrip`, `flattenAbs_split_id`) hold for every `z`.
-/
import FtProofs.Lemmas.Transform
import FtProofs.Lemmas.SplitSpec
set_option linter.unusedSectionVars false
set_option linter.unusedVariables false
namespace Ft
open StrictTotal C09

section generic
variable {κ : Type} [LT κ] [DecidableRel (α := κ) (· < ·)] [DecidableEq κ] [StrictTotal κ]
variable {ν : Type} [DecidableEq ν]

/-- **Swizzle.**  For every well-formed tensor (any depth `r + swiz_len`, explicit defaults and
    empty sub-fibers allowed) and every permutation `g` of the top `k+1 = swiz_len` ranks, the DFS
    extraction / sort / rebuild of `Tensor.swizzleRanks` yields a well-formed tensor whose content
    is the original's with every point's coordinates permuted by `g`, in ascending order. -/
theorem swizzle_content (dflt : ν) (r k : Nat) (g : List Nat) (hg : guideOkB (k + 1) g = true)
    (t : Tree κ ν (r + (k + 1))) (hw : WF (r + (k + 1)) t) :
    WF (r + (k + 1)) (swizzle r k g t) ∧
    content dflt (r + (k + 1)) (swizzle r k g t) = swizzleSpec g (content dflt (r + (k + 1)) t) := by
  have hg := (guideOkB_iff _ _).1 hg
  unfold swizzle swizzleSpec
  split
  · rename_i hid
    refine ⟨hw, ?_⟩
    rw [map_eq_self, ← eq_isort_of_sorted_perm (content_sorted dflt _ t hw) (List.Perm.refl _)]
    intro pv hpv
    have := content_point_length dflt _ t pv hpv
    rw [hid, permPoint_range (k + 1) pv.1 (by omega)]
  · obtain ⟨hsort, hq⟩ := extract_spec r (k + 1) t hw
    have hlen := fun q hq' => (hq q hq').1
    obtain ⟨hwfR, hc⟩ := rebuild_isort_spec dflt r k
      ((extract r (k + 1) t).map (fun q => (permute g q.1, q.2)))
      (fun q hq => by
        obtain ⟨q', hq', rfl⟩ := List.mem_map.1 hq
        show (permute g q'.1).length = k + 1
        rw [permute_length (fun i hi => (hlen q' hq') ▸ hg.2.1 i hi), hg.1])
      (fun q hq' => by
        obtain ⟨q', hq'', rfl⟩ := List.mem_map.1 hq'
        exact (hq q' hq'').2)
      (by
        rw [List.pairwise_map]
        refine List.Pairwise.imp_of_mem ?_ (sorted_keys_ne hsort)
        intro a b ha hb hab he
        exact hab (permute_injective hg (hlen a ha) (hlen b hb) he))
    refine ⟨hwfR, content_eq_isort_of_perm hwfR ?_⟩
    rw [below_map_permute dflt r hg _ hlen, ← content_extract] at hc
    exact hc

example : guideOkB 3 [2, 0, 1] = true := by decide

/-- **Swizzle round trip.**  Swizzling with `g` and then with a permutation `g'` that undoes it
    restores the content (an equal tensor; empty sub-fibers of the swizzled ranks are not
    re-created). -/
theorem swizzle_inverse (dflt : ν) (r k : Nat) (g g' : List Nat)
    (hg : guideOkB (k + 1) g = true) (hg' : guideOkB (k + 1) g' = true)
    (hinv : ∀ p : List κ, p.length = k + 1 → permute g' (permute g p) = p)
    (t : Tree κ ν (r + (k + 1))) (hw : WF (r + (k + 1)) t) :
    WF (r + (k + 1)) (swizzle r k g' (swizzle r k g t)) ∧
    content dflt (r + (k + 1)) (swizzle r k g' (swizzle r k g t)) = content dflt (r + (k + 1)) t := by
  have G := (guideOkB_iff _ _).1 hg
  have G' := (guideOkB_iff _ _).1 hg'
  obtain ⟨w1, c1⟩ := swizzle_content dflt r k g hg t hw
  obtain ⟨w2, c2⟩ := swizzle_content dflt r k g' hg' (swizzle r k g t) w1
  refine ⟨w2, ?_⟩
  rw [c2, c1]
  unfold swizzleSpec
  symm
  apply eq_isort_of_sorted_perm (content_sorted dflt _ t hw)
  refine List.Perm.trans (List.Perm.of_eq ?_) ((isort_perm (κ := List κ) _).map _).symm
  rw [List.map_map]
  symm
  apply map_eq_self
  intro pv hpv
  have hl := content_point_length dflt _ t pv hpv
  show (permPoint g' (permPoint g pv.1), pv.2) = pv
  rw [permPoint_permPoint G G' hinv (by omega)]

/-- **Flatten** (any number of levels, payloads at any depth `r` below, any way of combining
    coordinates): whenever the new coordinates come out ascending at every level (`monoLvB`,
    decidable; it holds for the tuple / pair styles, see `flatten_tuple_mono`, and for the linear
    style on coordinates inside the declared shape), `_mergeRanksHelper` succeeds, never calls the
    merge function, returns a well-formed fiber, and every point has moved to its image
    `joinTop` — its first `l+2` coordinates combined, everything else untouched, order preserved.
    Stated for the data path with the tensor's own default, which is the code for every default and
    every style since /repo COMMIT:C14-06 (before: only for tensor default 0, non-linear styles). -/
theorem flatten_content_partial (comb : Nat → κ → κ → κ) (mf : List ν → Option ν) (dflt : ν) (r l : Nat)
    (f : Tree κ ν (r + 2 + l)) (hw : WF (r + 2 + l) f) (hm : monoLvB comb dflt r l f = true) :
    mergeLv false dflt comb mf dflt r l f = some (flatLv comb dflt r l f) ∧
    content dflt (r + 1) (flatLv comb dflt r l f) =
      (content dflt (r + 2 + l) f).map (fun pv => (joinTop comb l pv.1, pv.2)) ∧
    Sorted (show List (κ × Tree κ ν r) from flatLv comb dflt r l f) :=
  ⟨mergeLv_mono comb mf dflt r l f ((monoLvB_iff comb dflt r l f).1 hm),
   content_flatLv comb dflt r l f,
   ((monoLvB_iff comb dflt r l f).1 hm).sorted⟩

/-- **Merge reduces colliding points with the merge function.**  For ANY two-rank tree (nothing
    assumed: any coordinates, explicit defaults, empty sub-fibers), any way `comb` of combining
    the two coordinates (absolute, relative, linear, tuple …) and any `merge_fn`:
    `_mergeRanksHelper(levels=1)` returns the fiber whose coordinates are exactly the new
    coordinates of the presented (non-default) points, ascending, each once (`G`), and whose
    payload at a coordinate is the value itself when a single point got it, otherwise `merge_fn`
    of the colliding values in traversal order (`foldVals`); it raises iff `merge_fn` does
    (`flattenRanks`: iff there is a collision). -/
theorem merge_leaf_spec (comb : κ → κ → κ) (mf : List ν → Option ν) (z dflt : ν) (f : Tree κ ν 2) :
    ∃ G : Fib κ (List ν), Sorted G ∧
      (∀ row ∈ G, row.2 = valsAt (leafPairs comb dflt f) row.1 ∧ row.2 ≠ []) ∧
      (∀ c, HasKey G c ↔ HasKey (leafPairs comb dflt f) c) ∧
      merge2 comb mf z dflt 0 f =
        (mapM? (fun row => (foldVals mf row.2).map (fun v => (row.1, v))) G).map
          (fun l => show Tree κ ν 1 from l) := by
  -- the implementation groups the presented leaves tagged with their default; grouping does not
  -- look at payloads, so its groups are those of the untagged leaves, every member tagged
  have hg : gather comb ((show List (κ × Tree κ ν 1) from f).map
        (fun e => (e.1, tagWith dflt (present dflt 0 e.2)))) =
      (gather comb ((show List (κ × Tree κ ν 1) from f).map
        (fun e => (e.1, (show List (κ × ν) from present dflt 0 e.2))))).map
          (fun g => (g.1, g.2.map (fun v => ((show Tree κ ν 0 from v), dflt)))) := by
    refine Eq.trans ?_ (gather_map comb (fun v : ν => ((show Tree κ ν 0 from v), dflt)) _)
    rw [List.map_map]
    rfl
  obtain ⟨hs, hr, hk⟩ := gather_spec comb ((show List (κ × Tree κ ν 1) from f).map
    (fun e => (e.1, (show List (κ × ν) from present dflt 0 e.2))))
  refine ⟨_, hs, hr, hk, ?_⟩
  have hrow : ∀ a ∈ gather comb ((show List (κ × Tree κ ν 1) from f).map
        (fun e => (e.1, (show List (κ × ν) from present dflt 0 e.2)))),
      ((mergeTrees mf z 0 (a.2.map (fun v => ((show Tree κ ν 0 from v), dflt)))).map (fun t => (a.1, t))).map
          (fun e : κ × (Tree κ ν 0 × ν) => ((e.1, (show ν from e.2.1)) : κ × ν)) =
        (foldVals mf a.2).map (fun v => (a.1, v)) := by
    intro a _
    rw [← mergeTrees_leaf (κ := κ) mf z dflt a.2]
    generalize mergeTrees (κ := κ) mf z 0 _ = o
    cases o <;> rfl
  unfold merge2 merge2T mergeRows
  rw [hg, mapM?_map_in, ← mapM?_congr _ hrow, ← mapM?_map_out]
  cases mapM? _ _ <;> rfl

/-- a fiber without elements is unflattened to an empty fiber (`if len(self.coords) == 0`,
    /repo 97d752a; before that fix `self.coords[0]` raised `IndexError`, which made
    `Tensor.unflattenRanks(depth ≥ 1)` fail on a tree with an empty sub-fiber) -/
theorem unflatten_empty (dflt : ν) (hd tl : κ → κ) (r l : Nat) :
    ∃ g, unflatLv (ν := ν) hd tl r l (show Tree κ ν (r + 1) from ([] : List (κ × Tree κ ν r))) = some g ∧
      WF (r + 2 + l) g ∧ content dflt (r + 2 + l) g = [] := by
  cases l with
  | zero => exact ⟨show Tree κ ν (r + 2) from ([] : List (κ × Tree κ ν (r + 1))), rfl,
      ⟨List.Pairwise.nil, fun _ h => by cases h⟩, rfl⟩
  | succ l => exact ⟨show Tree κ ν (r + 2 + l + 1) from ([] : List (κ × Tree κ ν (r + 2 + l))), rfl,
      ⟨List.Pairwise.nil, fun _ h => by cases h⟩, rfl⟩

/-- **Unflatten** (any number of levels): on a well-formed fiber (with or without elements) whose
    tuple coordinates are ordered lexicographically by (first component, rest) — `LexSplit`,
    true for Python tuples, see `lexSplit_coord` — `unflattenRanks` succeeds, returns a
    well-formed fiber and every point has moved to its image `splitTop` (first coordinate split
    into `l+2` coordinates), order preserved. -/
theorem unflatten_content (dflt : ν) (hd tl : κ → κ) (hH : LexSplit hd tl) (r l : Nat)
    (f : Tree κ ν (r + 1)) (hw : WF (r + 1) f) :
    ∃ g, unflatLv hd tl r l f = some g ∧ WF (r + 2 + l) g ∧
      content dflt (r + 2 + l) g =
        (content dflt (r + 1) f).map (fun pv => (splitTop hd tl l pv.1, pv.2)) := by
  induction l generalizing f with
  | zero =>
    obtain ⟨G, hG, hs, hg, hc⟩ := unflat1_spec dflt r hd tl hH _ hw.1 hw.2
    refine ⟨show List (κ × Tree κ ν (r + 1)) from G, ?_, ⟨hs, hg⟩, hc⟩
    unfold unflatLv; rw [hG]; rfl
  | succ l IH =>
    obtain ⟨G, hG, hs, hg, hc⟩ := unflat1_spec dflt r hd tl hH _ hw.1 hw.2
    -- every collected lower fiber is unflattened further
    obtain ⟨bs, hbs, hk, hwb, hcb⟩ := mapM?_level (R := Eq) rfl (fun h₁ h₂ => h₁ ▸ h₂ ▸ rfl)
      (fun _ => congrArg _) dflt dflt (r + 1) (r + 2 + l)
      (unflatLv hd tl r l) (fun p => splitTop hd tl l p)
      (show List (κ × Tree κ ν (r + 1)) from G) (fun g hg' => IH g.2 (hg g hg'))
    refine ⟨show List (κ × Tree κ ν (r + 2 + l)) from bs, ?_, ⟨sorted_of_keys_eq hk hs, hwb⟩, ?_⟩
    · unfold unflatLv
      rw [hG]
      exact congrArg (Option.map _) hbs
    · show c1 dflt (r + 2 + l) bs = _
      rw [hcb]
      show (c2 dflt r G).map _ = _
      rw [hc, List.map_map]
      show _ = (c1 dflt r (show List (κ × Tree κ ν r) from f)).map _
      apply List.map_congr_left
      intro pv _
      obtain ⟨p, v⟩ := pv
      cases p <;> rfl

/-- **Every depth.**  What a fiber-level transform `g` does to every fiber at depth `k` (succeeds,
    well-formed result, content = the `φ`-image) the `…Below` / `depth=k` form does to the whole
    tree, with `φ` applied below the first `k` coordinates — for every `k`, every tree, empty
    sub-fibers and explicit defaults included (`updatePayloads` visits every stored payload at
    its own position). -/
theorem transform_at_depth (dflt dflt' : ν) (a b : Nat) (g : Tree κ ν a → Option (Tree κ ν b))
    (φ : List κ → List κ) (k : Nat) (t : Tree κ ν (a + k)) (hw : WF (a + k) t)
    (h : ∀ s ∈ subsAt a k t, WF a s → ∃ s', g s = some s' ∧ WF b s' ∧
        content dflt' b s' = (content dflt a s).map (fun pv => (φ pv.1, pv.2))) :
    ∃ t', atDepth g k t = some t' ∧ WF (b + k) t' ∧
      content dflt' (b + k) t' = (content dflt (a + k) t).map (fun pv => (liftN φ k pv.1, pv.2)) :=
  atDepth_spec (R := Eq) rfl (fun h₁ h₂ => h₁ ▸ h₂ ▸ rfl) (fun _ => congrArg _) dflt dflt' a b g φ k t hw h

/-- the same for transforms that reorder (swap): content up to permutation, hence — the result
    being well-formed — the ascending arrangement of the images -/
theorem transform_at_depth_sorted (dflt dflt' : ν) (a b : Nat) (g : Tree κ ν a → Option (Tree κ ν b))
    (φ : List κ → List κ) (k : Nat) (t : Tree κ ν (a + k)) (hw : WF (a + k) t)
    (h : ∀ s ∈ subsAt a k t, WF a s → ∃ s', g s = some s' ∧ WF b s' ∧
        (content dflt' b s').Perm ((content dflt a s).map (fun pv => (φ pv.1, pv.2)))) :
    ∃ t', atDepth g k t = some t' ∧ WF (b + k) t' ∧
      content dflt' (b + k) t' =
        isort (κ := List κ) ((content dflt (a + k) t).map (fun pv => (liftN φ k pv.1, pv.2))) := by
  obtain ⟨t', h1, h2, h3⟩ := atDepth_spec .nil .append (fun f h => h.map f) dflt dflt' a b g φ k t hw h
  exact ⟨t', h1, h2, content_eq_isort_of_perm h2 h3⟩

end generic

section tuples
variable {α : Type} [LT α] [DecidableRel (α := α) (· < ·)] [DecidableEq α] [StrictTotal α]
variable {ν : Type} [DecidableEq ν]

/-- Python's tuple order splits lexicographically into (first component, rest) -/
theorem lexSplit_coord : LexSplit (κ := List α) (fun c => c.take 1) (fun c => c.drop 1) := by
  intro a b h
  cases a with
  | nil =>
    cases b with
    | nil => exact absurd h (List.not_lt_nil _)
    | cons y b => exact Or.inl (List.nil_lt_cons _ _)
  | cons x a =>
    cases b with
    | nil => exact absurd h (List.not_lt_nil _)
    | cons y b =>
      rcases List.cons_lt_cons_iff.1 h with h1 | ⟨h1, h2⟩
      · exact Or.inl (List.cons_lt_cons_iff.2 (Or.inl h1))
      · subst h1
        exact Or.inr ⟨rfl, by simpa using h2⟩

/-- **The tuple and pair styles never collide**: on every well-formed tree whose ranks hold
    coordinates of uniform arity (`upperArB`; arity 1 = integer coordinates) the hypothesis of
    `flatten_content_partial` holds, for any number of levels and any payload depth. -/
theorem flatten_tuple_mono (dflt : ν) (r l : Nat) (ar : List Nat) (f : Tree (List α) ν (r + 2 + l))
    (hw : WF (r + 2 + l) f) (har : upperArB r l ar f = true) :
    monoLvB (tupleComb (α := α)) dflt r l f = true :=
  (monoLvB_iff _ dflt r l f).2 (monoLv_tuple dflt r l ar f hw har)

/-- **Unflatten inverts flatten** (tuple / pair style, any number of levels, any payload depth):
    for a well-formed tree (empty or not) with integer coordinates on the flattened ranks,
    unflattening the flattened fiber succeeds, is well-formed and has the original's content
    (explicit defaults and empty sub-fibers of the flattened ranks are not re-created). -/
theorem unflatten_flatten (dflt : ν) (r l : Nat) (f : Tree (List α) ν (r + 2 + l))
    (hw : WF (r + 2 + l) f) (har' : upperArB r l (List.replicate (l + 1) 1) f = true) :
    ∃ g, unflatLv (fun c => c.take 1) (fun c => c.drop 1) r l (flatLv (tupleComb (α := α)) dflt r l f) = some g ∧
      WF (r + 2 + l) g ∧ content dflt (r + 2 + l) g = content dflt (r + 2 + l) f := by
  have hm := monoLv_tuple dflt r l _ f hw har'
  have hwf := flatLv_wf (tupleComb (α := α)) dflt r l f hw hm
  have hc := content_flatLv (tupleComb (α := α)) dflt r l f
  obtain ⟨g, hg, hgw, hgc⟩ := unflatten_content dflt _ _ (lexSplit_coord (α := α)) r l _ hwf
  refine ⟨g, hg, hgw, ?_⟩
  rw [hgc, hc, List.map_map]
  apply map_eq_self
  intro pv hpv
  show (splitTop _ _ l (joinTop tupleComb l pv.1), pv.2) = pv
  rw [splitTop_joinTop_of_mem dflt r l f har' pv hpv]

/-- **Flatten at every depth** (Tensor.flattenRanks(depth=k, levels=l+1, tuple / pair style)), for
    every tensor default (full since /repo COMMIT:C14-05, which removed the `TypeError` of the
    active-range bookkeeping with levels ≥ 3, and COMMIT:C14-06, since which a merged fiber keeps the
    default of a payload fiber that has elements).  For every depth `k`, every number of levels and
    every payload depth `r`, on every well-formed tree with coordinates of uniform arity on the
    flattened ranks: the transform succeeds, the result is well-formed, and every point has moved
    to its image (the coordinates `k … k+l+1` concatenated, all others untouched), nothing else
    changes, order preserved. -/
theorem flattenT_tuple_content (mf : List ν → Option ν) (dflt : ν) (r l k : Nat) (ar : List Nat)
    (t : Tree (List α) ν (r + 2 + l + k)) (hw : WF (r + 2 + l + k) t)
    (har : (subsAt (r + 2 + l) k t).all (fun s => upperArB r l ar s) = true) :
    ∃ t', mergeT false false dflt (tupleComb (α := α)) mf dflt r l k t = some t' ∧ WF (r + 1 + k) t' ∧
      content dflt (r + 1 + k) t' =
        (content dflt (r + 2 + l + k) t).map (fun pv => (liftN (joinTop (tupleComb (α := α)) l) k pv.1, pv.2)) := by
  unfold mergeT
  apply transform_at_depth dflt dflt (r + 2 + l) (r + 1) _ (joinTop (tupleComb (α := α)) l) k t hw
  intro s hs hws
  have hs' := List.all_eq_true.1 har s hs
  have hm := monoLv_tuple dflt r l ar s hws hs'
  refine ⟨flatLv (tupleComb (α := α)) dflt r l s, ?_, flatLv_wf _ dflt r l s hws hm, content_flatLv _ dflt r l s⟩
  unfold mergeLvA
  simp only [Bool.false_and, Bool.false_eq_true, if_false]
  exact mergeLv_mono _ mf dflt r l s hm

/-- **Swap is the adjacent swizzle.**  `Fiber.swapRanks` (flatten with style pair, sort on the
    reversed pair, unflatten) on a well-formed non-empty fiber with integer coordinates on its top
    two ranks succeeds, is well-formed, and its content is the original's with the first two
    coordinates of every point exchanged — the specification of `swizzle` for the permutation
    `[1, 0]`; payloads at any depth `r` below. -/
theorem swap_is_adjacent_swizzle (dflt : ν) (r : Nat) (f : Tree (List α) ν (r + 2))
    (hw : WF (r + 2) f) (hint' : int2B r f = true) (hne : isEmpty dflt (r + 2) f = false) :
    ∃ g, swapFiber (fun a b => a ++ b) List.reverse (fun c => c.take 1) (fun c => c.drop 1) dflt r f = some g ∧
      WF (r + 2) g ∧ content dflt (r + 2) g = swizzleSpec [1, 0] (content dflt (r + 2) f) := by
  have hint := int2B_iff.1 hint'
  have hmono : Sorted (show List (List α × Tree (List α) ν r) from flat2 (fun a b => a ++ b) dflt r f) :=
    monoLv_tuple dflt r 0 [1] f hw (upperArB_zero.2 (fun e he => (hint e he).1))
  obtain ⟨g, hg, hgw, hgc⟩ := swapFiber_spec (fun a b => a ++ b) List.reverse _ _ (lexSplit_coord (α := α))
    dflt r f hw hmono hne (fun _ _ h => List.reverse_inj.1 h)
  refine ⟨g, hg, hgw, ?_⟩
  unfold swizzleSpec
  apply content_eq_isort_of_perm hgw
  refine hgc.trans (List.Perm.of_eq ?_)
  apply List.map_congr_left
  intro pv hpv
  -- the point is `[a] :: [b] :: rest`
  obtain ⟨e, he, y, hy, rfl⟩ := mem_content_succ (d := r + 1) hpv
  obtain ⟨x, hx, w, _, rfl⟩ := mem_content_succ hy
  have h1 := (hint e he).1
  have h2 := (hint e he).2 x hx
  match e.1, x.1, h1, h2 with
  | [a], [b], _, _ => rfl

/-- **Swap at every depth** (Tensor.swapRanks(depth=k)).  For every `k` and every payload depth
    `r`, on every well-formed tensor whose non-empty fibers at depth `k` hold integer coordinates
    on ranks `k`, `k+1` — empty fibers at depth `k` and all-empty tensors included —: the
    transform succeeds, the result is well-formed and its content is the original's with
    coordinates `k` and `k+1` of every point exchanged, in ascending order. -/
theorem swapT_content (dflt : ν) (r k : Nat) (t : Tree (List α) ν (r + 2 + k)) (hw : WF (r + 2 + k) t)
    (hsub : (subsAt (r + 2) k t).all (fun s => isEmpty dflt (r + 2) s || int2B r s) = true) :
    ∃ t', swapT (fun a b => a ++ b) List.reverse (fun c => c.take 1) (fun c => c.drop 1) dflt r k t = some t' ∧
      WF (r + 2 + k) t' ∧
      content dflt (r + 2 + k) t' = isort (κ := List (List α))
        ((content dflt (r + 2 + k) t).map (fun pv => (liftN (permPoint [1, 0]) k pv.1, pv.2))) := by
  unfold swapT
  cases hg : allEmptyAt dflt (r + 1) k t with
  | true =>
    rw [if_pos rfl]
    refine ⟨_, rfl, (defaultTree_spec dflt _).1, ?_⟩
    rw [content_eq_nil_of_allEmptyAt hg, (defaultTree_spec dflt _).2]; rfl
  | false =>
    simp only [Bool.false_eq_true, if_false]
    apply transform_at_depth_sorted dflt dflt (r + 2) (r + 2) _ (permPoint [1, 0]) k t hw
    intro s hs hws
    have hs' := List.all_eq_true.1 hsub s hs
    cases he : isEmpty dflt (r + 2) s with
    | true =>
      refine ⟨show Tree (List α) ν (r + 2) from ([] : List (List α × Tree (List α) ν (r + 1))), ?_,
        ⟨List.Pairwise.nil, fun _ h => by cases h⟩, ?_⟩
      · rw [if_pos rfl]
      · rw [(isEmpty_iff_content dflt _ s).1 he]
        exact List.Perm.refl _
    | false =>
      rw [he, Bool.false_or] at hs'
      obtain ⟨g, hg', hgw, hgc⟩ := swap_is_adjacent_swizzle dflt r s hws hs' he
      refine ⟨g, ?_, hgw, ?_⟩
      · simp only [Bool.false_eq_true, if_false]; exact hg'
      · rw [hgc]
        exact isort_perm _

/-- **Unflatten at every depth** (Tensor.unflattenRanks(depth=k, levels=l+1)).  The model's
    `unflattenTS` ignores `declared`, and the hypothesis `hshape` is not used by the proof: the
    statement holds with or without a declared shape.  For every `k`,
    `l`, `r` and every well-formed tensor — empty fibers at depth `k` included (/repo 97d752a), an
    all-empty tensor included (the guard returns an empty root) — : success, a well-formed result,
    every point moved to its image (coordinate `k` split into `l+2` coordinates), order preserved.
    The result keeps the operand's default (/repo e4536c9): both contents are relative to `dflt`. -/
theorem unflattenT_content_partial (declared : Bool) (dflt : ν) (r l k : Nat) (t : Tree (List α) ν (r + 1 + k))
    (hw : WF (r + 1 + k) t)
    (hshape : (declared || !(fibersAt r k t).all
      (fun f => (show List (List α × Tree (List α) ν r) from f).isEmpty)) = true) :
    ∃ t', unflattenTS declared (fun c => c.take 1) (fun c => c.drop 1) dflt r l k t = some t' ∧
      WF (r + 2 + l + k) t' ∧
      content dflt (r + 2 + l + k) t' = (content dflt (r + 1 + k) t).map
        (fun pv => (liftN (splitTop (fun c => c.take 1) (fun c => c.drop 1) l) k pv.1, pv.2)) := by
  unfold unflattenTS
  unfold unflattenT
  cases hg : allEmptyAt dflt r k t with
  | true =>
    rw [if_pos rfl]
    refine ⟨_, rfl, (defaultTree_spec dflt _).1, ?_⟩
    rw [content_eq_nil_of_allEmptyAt hg, (defaultTree_spec dflt _).2]; rfl
  | false =>
    simp only [Bool.false_eq_true, if_false]
    apply transform_at_depth dflt dflt (r + 1) (r + 2 + l) _ _ k t hw
    intro s _ hws
    exact unflatten_content dflt _ _ (lexSplit_coord (α := α)) r l s hws

/-- **Flatten then unflatten restores the tensor's content — at every depth, for every default.**
    `Tensor.flattenRanks(depth=k, levels=1, tuple / pair)` followed by
    `Tensor.unflattenRanks(depth=k, levels=1)` (which keeps the default since /repo e4536c9), on a
    well-formed non-empty tensor (empty fibers at depth `k` allowed, /repo 97d752a) with integer
    coordinates on rank `k`, declared shape or not: both succeed, the result is well-formed and has the original's content, relative
    to the same default; `z` (the implementation's `Payload(0)` fallback) is arbitrary, i.e. the
    tensor default need not be 0.  (More levels: `unflatten_flatten` with the hypotheses of
    `flattenT_tuple_content`.) -/
theorem flatten_unflatten_roundtrip (mf : List ν → Option ν) (z dflt : ν) (r k : Nat)
    (t : Tree (List α) ν (r + 2 + k)) (hw : WF (r + 2 + k) t)
    (hne : isEmpty dflt (r + 2 + k) t = false)
    (hsub : (subsAt (r + 2) k t).all (fun s => upperArB r 0 [1] s) = true) (declared : Bool) :
    ∃ u t', mergeT false false z (tupleComb (α := α)) mf dflt r 0 k t = some u ∧
      unflattenTS declared (fun c => c.take 1) (fun c => c.drop 1) dflt r 0 k u = some t' ∧
      WF (r + 2 + k) t' ∧ content dflt (r + 2 + k) t' = content dflt (r + 2 + k) t := by
  -- one fiber at depth k flattens to `flatLv`, for any `z`
  have h1 : ∀ s ∈ subsAt (r + 2) k t, WF (r + 2) s →
      mergeLvA false false z (tupleComb (α := α)) mf dflt r 0 s = some (flatLv (tupleComb (α := α)) dflt r 0 s) ∧
      MonoLv (tupleComb (α := α)) dflt r 0 s := by
    intro s hs hws
    have hs' := List.all_eq_true.1 hsub s hs
    have hm := monoLv_tuple dflt r 0 [1] s hws hs'
    exact ⟨merge2_sorted (tupleComb 0) mf z dflt r s hm, hm⟩
  obtain ⟨u, hu, huw, huc⟩ := transform_at_depth dflt dflt (r + 2) (r + 1)
    (mergeLvA false false z (tupleComb (α := α)) mf dflt r 0) (joinTop (tupleComb (α := α)) 0) k t hw
    (fun s hs hws => ⟨_, (h1 s hs hws).1, flatLv_wf _ dflt r 0 s hws (h1 s hs hws).2, content_flatLv _ dflt r 0 s⟩)
  -- flatten ; unflatten on one fiber
  obtain ⟨t', ht', htw, htc⟩ := transform_at_depth dflt dflt (r + 2) (r + 2)
    (fun s => (mergeLvA false false z (tupleComb (α := α)) mf dflt r 0 s).bind
      (unflatLv (fun c => c.take 1) (fun c => c.drop 1) r 0)) (fun q => q) k t hw
    (fun s hs hws => by
      have hs' := List.all_eq_true.1 hsub s hs
      obtain ⟨g, hg, hgw, hgc⟩ := unflatten_flatten dflt r 0 s hws hs'
      refine ⟨g, ?_, hgw, ?_⟩
      · rw [(h1 s hs hws).1]; exact hg
      · rw [hgc, List.map_id'])
  refine ⟨u, t', hu, ?_, htw, ?_⟩
  · unfold unflattenTS unflattenT
    rw [allEmptyAt_false_of_content_map huc hne]
    simp only [Bool.false_eq_true, if_false]
    rw [atDepth_bind _ _ k t u hu]
    exact ht'
  · rw [htc]
    exact map_eq_self (fun pv _ => by rw [liftN_id])

end tuples

section split
variable {ν : Type} [DecidableEq ν]

/-- **Flattening a uniform split with absolute coordinates restores the original.**  For every
    positive step, every well-formed fiber (payloads at any depth, explicit defaults and empty
    sub-fibers allowed) whose presented elements lie in the active range: the split of C08
    (`splitFiber`, halo 0, absolute coordinates) succeeds, and merging its two ranks with the
    absolute style — `flattenRanks(coord_style="absolute")`, raising merge function — returns
    exactly the presented elements of the original, hence the original's content. -/
theorem flattenAbs_split_id (step as ae : Int) (hstep : 0 < step) (hact : as < ae) (z dflt : ν) (r : Nat)
    (f : Tree Int ν (r + 1)) (hw : WF (r + 1) f)
    (hin : ∀ e ∈ present dflt r f, as ≤ e.1 ∧ e.1 < ae) :
    ∃ u, splitFiber { op := .uniform step, act := some (as, ae) } dflt r f = some u ∧
      merge2 (fun _ c => c) mfRaise z dflt r u = some (show Tree Int ν (r + 1) from present dflt r f) ∧
      content dflt (r + 1) (show Tree Int ν (r + 1) from present dflt r f) = content dflt (r + 1) f := by
  have hps : Sorted (present dflt r f) := present_sorted hw.1
  have hsplit : splitFiberParts { op := .uniform step, act := some (as, ae) } dflt r f =
      some (uSpec step 0 0 as ae false (present dflt r f)) :=
    splitUniformIter_eq step 0 0 as ae hstep hact (Int.le_refl 0) (Int.le_refl 0) false _ hps
  have hloss := uSpec_lossless step as ae hstep (present dflt r f) hps
  have hfilt : (present dflt r f).filter (fun e => decide (as ≤ e.1) && decide (e.1 < ae)) =
      present dflt r f := by
    rw [List.filter_eq_self]
    intro e he
    simp [(hin e he).1, (hin e he).2]
  rw [hfilt] at hloss
  refine ⟨partsTree r (uSpec step 0 0 as ae false (present dflt r f)), ?_, ?_, ?_⟩
  · unfold splitFiber; rw [hsplit]; rfl
  · -- every element of a part is a presented element of `f`, so flattening concatenates the parts
    have hflat := (flat2_abs_partsTree dflt r _ (fun p hp x hx =>
      (mem_present.1 (hloss ▸ List.mem_flatMap.2 ⟨p, hp, hx⟩)).2)).trans hloss
    rw [merge2_sorted (fun _ c => c) mfRaise z dflt r _ (by rw [hflat]; exact hps)]
    exact congrArg some hflat
  · exact (content_present dflt r f).symm ▸ rfl

end split


namespace C09.Ex
abbrev TI := Tree Int Int
abbrev TC := Tree Coord Int

/-- ranks A,B,C with an explicit default (A=1,B=0,C=1), an empty C fiber (A=1,B=3) and an empty
    B fiber (A=2) -/
def tI : TI 3 := show List (Int × TI 2) from
  [(0, show List (Int × TI 1) from [(0, show List (Int × TI 0) from [(0, (1 : Int)), (2, (2 : Int))]),
                                     (1, show List (Int × TI 0) from [(1, (3 : Int))])]),
   (1, show List (Int × TI 1) from [(0, show List (Int × TI 0) from [(0, (4 : Int)), (1, (0 : Int))]),
                                     (3, show List (Int × TI 0) from [])]),
   (2, show List (Int × TI 1) from [])]

/-- the same tensor with its integer coordinates as 1-tuples -/
def tC : TC 3 := show List (Coord × TC 2) from
  [([0], show List (Coord × TC 1) from [([0], show List (Coord × TC 0) from [([0], (1 : Int)), ([2], (2 : Int))]),
                                        ([1], show List (Coord × TC 0) from [([1], (3 : Int))])]),
   ([1], show List (Coord × TC 1) from [([0], show List (Coord × TC 0) from [([0], (4 : Int)), ([1], (0 : Int))]),
                                        ([3], show List (Coord × TC 0) from [])]),
   ([2], show List (Coord × TC 1) from [])]

def mkC1 (l : List (Coord × Int)) : TC 1 := l
def mkI1 (l : List (Int × Int)) : TI 1 := l

theorem tI_wf : WF 3 tI := (wfB_iff 3 tI).1 (by decide)
theorem tC_wf : WF 3 tC := (wfB_iff 3 tC).1 (by decide)

-- swizzle (A,B,C) → (C,A,B)
example : content (0 : Int) 3 (swizzle 0 2 [2, 0, 1] tI) = swizzleSpec [2, 0, 1] (content (0 : Int) 3 tI) :=
  (swizzle_content (0 : Int) 0 2 [2, 0, 1] (by decide) tI tI_wf).2
example : content (0 : Int) 3 (swizzle 0 2 [2, 0, 1] tI) =
    [([0, 0, 0], 1), ([0, 1, 0], 4), ([1, 0, 1], 3), ([2, 0, 0], 2)] := by decide
-- … and back with (B,C,A)
example : content (0 : Int) 3 (swizzle 0 2 [1, 2, 0] (swizzle 0 2 [2, 0, 1] tI)) = content (0 : Int) 3 tI :=
  (swizzle_inverse (0 : Int) 0 2 [2, 0, 1] [1, 2, 0] (by decide) (by decide)
    (fun p hp => by
      match p, hp with
      | [a, b, c], _ => rfl) tI tI_wf).2

-- flatten all three ranks (levels = 2), tuple style
example : mergeLv false (0 : Int) (tupleComb (α := Int)) mfRaise 0 0 1 tC =
    some (mkC1 [([0, 0, 0], 1), ([0, 0, 2], 2), ([0, 1, 1], 3), ([1, 0, 0], 4)]) :=
  ((flatten_content_partial (tupleComb (α := Int)) mfRaise (0 : Int) 0 1 tC tC_wf
    (flatten_tuple_mono (0 : Int) 0 1 [1, 1] tC tC_wf (by decide))).1).trans (by decide)

-- unflatten inverts it
example : ∃ g, unflatLv (fun c => c.take 1) (fun c => c.drop 1) 0 1
      (flatLv (tupleComb (α := Int)) (0 : Int) 0 1 tC) = some g ∧ WF 3 g ∧
      content (0 : Int) 3 g = content (0 : Int) 3 tC :=
  unflatten_flatten (0 : Int) 0 1 tC tC_wf (by decide)

-- unflatten of a directly built fiber with 2-tuple coordinates, an explicit default kept
example : ∃ g, unflatLv (fun c => c.take 1) (fun c => c.drop 1) 0 0
      (mkC1 [([0, 1], 5), ([0, 2], 0), ([1, 0], 7)]) = some g ∧ WF 2 g ∧
      content (0 : Int) 2 g = [([[0], [1]], 5), ([[1], [0]], 7)] :=
  unflatten_content (0 : Int) _ _ lexSplit_coord 0 0 _ ((wfB_iff 1 _).1 (by decide))

-- swap A and B
example : ∃ g, swapFiber (fun a b => a ++ b) List.reverse (fun c => c.take 1) (fun c => c.drop 1) (0 : Int) 1 tC = some g ∧
      WF 3 g ∧ content (0 : Int) 3 g = swizzleSpec [1, 0] (content (0 : Int) 3 tC) :=
  swap_is_adjacent_swizzle (0 : Int) 1 tC tC_wf (by decide) (by decide)
example : swizzleSpec [1, 0] (content (0 : Int) 3 tC) =
    [([[0], [0], [0]], 1), ([[0], [0], [2]], 2), ([[0], [1], [0]], 4), ([[1], [0], [1]], 3)] := by decide

-- split the leaf rank of a fiber uniformly by 2, flatten with absolute coordinates
example : ∃ u, splitFiber { op := .uniform 2, act := some (0, 6) } (0 : Int) 0
      (mkI1 [(0, 1), (1, 0), (3, 2), (4, 5)]) = some u ∧
      merge2 (fun _ c => c) mfRaise (0 : Int) 0 0 u = some (mkI1 [(0, 1), (3, 2), (4, 5)]) ∧
      content (0 : Int) 1 (mkI1 [(0, 1), (3, 2), (4, 5)]) =
        content (0 : Int) 1 (mkI1 [(0, 1), (1, 0), (3, 2), (4, 5)]) :=
  flattenAbs_split_id 2 0 6 (by decide) (by decide) (0 : Int) (0 : Int) 0 _ ((wfB_iff 1 _).1 (by decide))
    (by decide)

-- every depth: flatten ranks B,C below rank A (depth = 1); the empty B fiber at A=2 stays
example : ∃ t', mergeT false false (0 : Int) (tupleComb (α := Int)) mfRaise 0 0 0 1 tC = some t' ∧ WF 2 t' ∧
      content (0 : Int) 2 t' =
        (content (0 : Int) 3 tC).map (fun pv => (liftN (joinTop (tupleComb (α := Int)) 0) 1 pv.1, pv.2)) :=
  flattenT_tuple_content mfRaise (0 : Int) 0 0 1 [1] tC tC_wf (by decide)
example : (content (0 : Int) 3 tC).map (fun pv => (liftN (joinTop (tupleComb (α := Int)) 0) 1 pv.1, pv.2)) =
    [([[0], [0, 0]], 1), ([[0], [0, 2]], 2), ([[0], [1, 1]], 3), ([[1], [0, 0]], 4)] := by decide

-- swap B and C below A (depth = 1) on a tree without empty fibers at depth 1
def tD : TC 3 := show List (Coord × TC 2) from
  [([0], show List (Coord × TC 1) from [([0], mkC1 [([0], 1), ([2], 2)]), ([1], mkC1 [([0], 3)])]),
   ([1], show List (Coord × TC 1) from [([5], mkC1 [([1], 4), ([2], 0)])])]
example : ∃ t', swapT (fun a b => a ++ b) List.reverse (fun c => c.take 1) (fun c => c.drop 1) (0 : Int) 0 1 tD = some t' ∧
      WF 3 t' ∧ content (0 : Int) 3 t' = isort (κ := List Coord)
        ((content (0 : Int) 3 tD).map (fun pv => (liftN (permPoint [1, 0]) 1 pv.1, pv.2))) :=
  swapT_content (0 : Int) 0 1 tD ((wfB_iff 3 tD).1 (by decide)) (by decide)
example : isort (κ := List Coord)
      ((content (0 : Int) 3 tD).map (fun pv => (liftN (permPoint [1, 0]) 1 pv.1, pv.2))) =
    [([[0], [0], [0]], 1), ([[0], [0], [1]], 3), ([[0], [2], [0]], 2), ([[1], [1], [5]], 4)] := by decide

-- … and on `tC`, whose B fiber at A=2 is empty (an empty fiber stays in its place)
example : ∃ t', swapT (fun a b => a ++ b) List.reverse (fun c => c.take 1) (fun c => c.drop 1) (0 : Int) 0 1 tC = some t' ∧
      WF 3 t' ∧ content (0 : Int) 3 t' = isort (κ := List Coord)
        ((content (0 : Int) 3 tC).map (fun pv => (liftN (permPoint [1, 0]) 1 pv.1, pv.2))) :=
  swapT_content (0 : Int) 0 1 tC tC_wf (by decide)

-- unflatten rank 1 (2-tuples) below rank 0, no declared shape; the fiber at A=2 has no element
def tU : TC 2 := show List (Coord × TC 1) from
  [([0], mkC1 [([0, 1], 5), ([1, 0], 0), ([1, 2], 6)]), ([2], mkC1 []), ([3], mkC1 [([2, 2], 7)])]
example : ∃ t', unflattenTS false (fun c => c.take 1) (fun c => c.drop 1) (0 : Int) 0 0 1 tU = some t' ∧ WF 3 t' ∧
      content (0 : Int) 3 t' = (content (0 : Int) 2 tU).map
        (fun pv => (liftN (splitTop (fun c => c.take 1) (fun c => c.drop 1) 0) 1 pv.1, pv.2)) :=
  unflattenT_content_partial false (0 : Int) 0 0 1 tU ((wfB_iff 2 tU).1 (by decide)) (by decide)
example : (content (0 : Int) 2 tU).map
      (fun pv => (liftN (splitTop (fun c => c.take 1) (fun c => c.drop 1) 0) 1 pv.1, pv.2)) =
    [([[0], [0], [1]], 5), ([[0], [1], [2]], 6), ([[3], [2], [2]], 7)] := by decide

-- merge ranks A,B of a two-rank tensor with absolute coordinates and the default merge function:
-- B=0 collides (1+4), B=2 collides (2-2 = 0 is stored explicitly), the explicit default at B=1 is skipped
def tM : TI 2 := show List (Int × TI 1) from
  [(0, mkI1 [(0, 1), (2, 2)]), (1, mkI1 [(0, 4), (1, 0), (2, -2)])]
example : merge2 (fun _ c => c) mfSum (0 : Int) 0 0 tM = some (mkI1 [(0, 5), (2, 0)]) := by decide
example : leafPairs (fun _ c => c) (0 : Int) tM = [(0, 1), (2, 2), (0, 4), (2, -2)] := by decide
example : ∃ G : Fib Int (List Int), Sorted G ∧
      (∀ row ∈ G, row.2 = valsAt (leafPairs (fun _ c => c) (0 : Int) tM) row.1 ∧ row.2 ≠ []) ∧
      (∀ c, HasKey G c ↔ HasKey (leafPairs (fun _ c => c) (0 : Int) tM) c) ∧
      merge2 (fun _ c => c) mfSum (0 : Int) 0 0 tM =
        (mapM? (fun row => (foldVals mfSum row.2).map (fun v => (row.1, v))) G).map (fun l => show TI 1 from l) :=
  merge_leaf_spec (fun _ c => c) mfSum (0 : Int) 0 tM

-- flatten ; unflatten with default 7: the stored 0 is a value, the stored 7 is empty — both survive
def tR : TC 2 := show List (Coord × TC 1) from
  [([1], mkC1 [([1], 0), ([2], 7)]), ([2], mkC1 [([0], 3)])]
example : ∃ u t', mergeT false false (0 : Int) (tupleComb (α := Int)) mfRaise (7 : Int) 0 0 0 tR = some u ∧
      unflattenTS false (fun c => c.take 1) (fun c => c.drop 1) (7 : Int) 0 0 0 u = some t' ∧
      WF 2 t' ∧ content (7 : Int) 2 t' = content (7 : Int) 2 tR :=
  flatten_unflatten_roundtrip mfRaise (0 : Int) (7 : Int) 0 0 tR ((wfB_iff 2 tR).1 (by decide)) (by decide) (by decide) false
example : content (7 : Int) 2 tR = [([[1], [1]], 0), ([[2], [0]], 3)] := by decide
-- … and below rank A (depth = 1) of the three-rank tensor `tC` (default 7), whose B fiber at A=2 is empty
example : ∃ u t', mergeT false false (0 : Int) (tupleComb (α := Int)) mfRaise (7 : Int) 0 0 1 tC = some u ∧
      unflattenTS false (fun c => c.take 1) (fun c => c.drop 1) (7 : Int) 0 0 1 u = some t' ∧
      WF 3 t' ∧ content (7 : Int) 3 t' = content (7 : Int) 3 tC :=
  flatten_unflatten_roundtrip mfRaise (0 : Int) (7 : Int) 0 1 tC tC_wf (by decide) (by decide) false

end C09.Ex

end Ft
